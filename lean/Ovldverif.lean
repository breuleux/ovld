import Ovldverif.Model.Order
import Ovldverif.Model.Ty
import Ovldverif.Model.TyEq
import Ovldverif.Model.TypeOrder
import Ovldverif.Model.Batch
import Ovldverif.Model.SortTypes
import Ovldverif.Model.Rank
import Ovldverif.Model.Cache
import Ovldverif.Model.MultiMap
import Ovldverif.Spec.Types
import Ovldverif.Lemmas.TyBasic
import Ovldverif.Lemmas.Fuel
import Ovldverif.Props.C12
import Ovldverif.Props.C13
import Ovldverif.Props.C12Mirror
import Ovldverif.Model.Entry
import Ovldverif.Model.Fn
import Ovldverif.Spec.CacheSpec
import Ovldverif.Spec.Resolve
import Ovldverif.Lemmas.CacheInv
import Ovldverif.Lemmas.PureLookup
import Ovldverif.Lemmas.PlanOK
import Ovldverif.Spec.Runs
import Ovldverif.Lemmas.Batches
import Ovldverif.Lemmas.RankCore
import Ovldverif.Lemmas.LevelsStatic
import Ovldverif.Lemmas.FnInv
import Ovldverif.Props.C04
import Ovldverif.Props.C20
import Ovldverif.Props.C18Resolve
import Ovldverif.Lemmas.ListFacts
import Ovldverif.Lemmas.RewriteEqns
import Ovldverif.Model.BuildTree
import Ovldverif.Props.C18Tree
import Ovldverif.Model.Build
import Ovldverif.Props.C18
import Ovldverif.Model.Normalize
import Ovldverif.Props.C14
import Ovldverif.Props.C15
import Ovldverif.Model.ClassBody
import Ovldverif.Spec.ClassSpec
import Ovldverif.Lemmas.All2
import Ovldverif.Lemmas.ClassCore
import Ovldverif.Lemmas.ClassStep
import Ovldverif.Lemmas.ClassGraph
import Ovldverif.Props.C17
import Ovldverif.Model.ConcBuild
import Ovldverif.Props.C19Build
import Ovldverif.Model.ConcLookup
import Ovldverif.Lemmas.ConcCore
import Ovldverif.Lemmas.LookupSpec
import Ovldverif.Props.C19Lookup
import Ovldverif.Props.C05
import Ovldverif.Lemmas.SpecRule
import Ovldverif.Lemmas.Candidates
import Ovldverif.Lemmas.StaticRank
import Ovldverif.Props.C02
import Ovldverif.Model.Dependent
import Ovldverif.Model.Graph
import Ovldverif.Spec.Chain
import Ovldverif.Lemmas.MkRanks
import Ovldverif.Props.C01
import Ovldverif.Props.C03
import Ovldverif.Props.C06
import Ovldverif.Lemmas.PullNext
import Ovldverif.Props.C07
import Ovldverif.Props.C07Chain
import Ovldverif.Lemmas.GraphBasic
import Ovldverif.Lemmas.GraphEdit
import Ovldverif.Lemmas.GraphRel
import Ovldverif.Lemmas.GraphTopo
import Ovldverif.Lemmas.GraphUpdate
import Ovldverif.Lemmas.GraphOps
import Ovldverif.Props.C16
import Ovldverif.Model.Rewrite
import Ovldverif.Props.C09
import Ovldverif.Model.RewriteStmt
import Ovldverif.Props.C09Stmt
import Ovldverif.Spec.DepSpec
import Ovldverif.Lemmas.DepCheck
import Ovldverif.Lemmas.DepDispatch
import Ovldverif.Props.C10
import Ovldverif.Props.C10Order
import Ovldverif.Props.C11
import Ovldverif.Props.C11Comb
import Ovldverif.Props.C01Dep
import Ovldverif.Lemmas.GraphCall
import Ovldverif.Props.C08
import Ovldverif.Props.C13Generic
import Ovldverif.Props.C02Twin
import Ovldverif.Props.C20Build
import Ovldverif.Props.C20Graph
import Ovldverif.Model.BuildForest
import Ovldverif.Props.C18Forest

import Ovldverif.Lemmas.LookupSpec
/-!
# C19 (table level): concurrent lookups on the shared caches are linearizable

Any number of threads, each executing one lookup (`Model/ConcLookup.lean`: one dict access per step), under
EVERY schedule, starting from any state satisfying the cache invariant `CInv`.  The publication order of `ws`,
the entry of the looked-up key last, makes the fault-tolerant invariant an interleaving invariant.
-/
set_option autoImplicit false
namespace Ovld.ConcLookup
open Ovld

section
variable {K F E : Type} [DecidableEq K] (plan : K → Plan F E)

/-- the global invariant, one program counter per request, every thread's local invariant -/
def SysInv (reqs : List (CKey K)) (s : Sys K F E) : Prop :=
  CInv plan s.st ∧ s.pcs.length = reqs.length ∧
    ∀ (i : Nat) pc req, s.pcs[i]? = some pc → reqs[i]? = some req → L plan s.st req pc

theorem SysInv.init (st0 : St K F E) (h0 : CInv plan st0) (reqs : List (CKey K)) :
    SysInv plan reqs (Sys.init st0 reqs) := by
  refine ⟨h0, by simp [Sys.init], fun i pc req hp hr => ?_⟩
  simp only [Sys.init, List.getElem?_map, hr, Option.map_some, Option.some.injEq] at hp
  subst hp
  exact L_start plan _ _

theorem SysInv.step (ok : PlanOK plan) (reqs : List (CKey K)) (s : Sys K F E) (i : Nat) (h : SysInv plan reqs s) :
    SysInv plan reqs (s.stepThread plan i) := by
  obtain ⟨g, hlen, hl⟩ := h
  unfold Sys.stepThread
  cases hi : s.pcs[i]? with
  | none => exact ⟨g, hlen, hl⟩
  | some pc =>
    obtain ⟨hib, _⟩ := List.getElem?_eq_some_iff.1 hi
    have hr : reqs[i]? = some reqs[i] := List.getElem?_eq_getElem (hlen ▸ hib)
    obtain ⟨hx, hg, hL⟩ := step_ok plan ok s.st _ pc g (hl i pc _ hi hr)
    refine ⟨hg, by simp [hlen], fun j pc' req' hp hr' => ?_⟩
    by_cases e : i = j
    · subst e
      rw [List.getElem?_set_self hib] at hp
      cases hp; cases hr.symm.trans hr'
      exact hL
    · rw [List.getElem?_set_ne e] at hp
      exact L.stable plan hx _ (hl j pc' req' hp hr')

theorem SysInv.run (ok : PlanOK plan) (reqs : List (CKey K)) : ∀ (sched : List Nat) (s : Sys K F E),
    SysInv plan reqs s → SysInv plan reqs (s.run plan sched)
  | [], _, h => h
  | i :: rest, s, h => SysInv.run ok reqs rest _ (SysInv.step plan ok reqs s i h)

/-- C19 (lookup level): whatever the schedule and the number of threads, a thread that has finished holds the
    answer a lone lookup gives on a fresh table -/
theorem C19_lookups_linearizable (ok : PlanOK plan) (st0 : St K F E) (h0 : CInv plan st0)
    (reqs : List (CKey K)) (sched : List Nat) (i : Nat) (r : Res F E) (hi : i < reqs.length)
    (hdone : ((Sys.init st0 reqs).run plan sched).pcs[i]? = some (.done r)) :
    r = pureLookup plan reqs[i] := by
  exact (SysInv.run plan ok reqs sched _ (SysInv.init plan st0 h0 reqs)).2.2 i _ _ hdone (List.getElem?_eq_getElem hi)

/-- the cache invariant holds after EVERY step of every schedule, whether or not the threads have finished -/
theorem C19_lookups_state_always (ok : PlanOK plan) (st0 : St K F E) (h0 : CInv plan st0)
    (reqs : List (CKey K)) (sched : List Nat) : CInv plan ((Sys.init st0 reqs).run plan sched).st :=
  (SysInv.run plan ok reqs sched _ (SysInv.init plan st0 h0 reqs)).1

/-- at quiescence the shared state satisfies the cache invariant (`C19_lookups_state_always` without using `_hall`) -/
theorem C19_lookups_state (ok : PlanOK plan) (st0 : St K F E) (h0 : CInv plan st0)
    (reqs : List (CKey K)) (sched : List Nat)
    (_hall : ∀ pc ∈ ((Sys.init st0 reqs).run plan sched).pcs, ∃ r, pc = .done r) :
    CInv plan ((Sys.init st0 reqs).run plan sched).st :=
  C19_lookups_state_always plan ok st0 h0 reqs sched

/-- hence every sequential lookup after any concurrent phase returns the pure answer -/
theorem C19_lookups_then_sequential (ok : PlanOK plan) (st0 : St K F E) (h0 : CInv plan st0)
    (reqs : List (CKey K)) (sched : List Nat) (ck : CKey K) :
    (lookup plan ((Sys.init st0 reqs).run plan sched).st ck).2 = pureLookup plan ck :=
  (lookup_spec plan ok _ ck (C19_lookups_state_always plan ok st0 h0 reqs sched)).1

/-- the number of threads never changes: thread `i` exists in the final system (`ok` and `h0` are not needed) -/
theorem C19_threads (ok : PlanOK plan) (st0 : St K F E) (h0 : CInv plan st0)
    (reqs : List (CKey K)) (sched : List Nat) :
    ((Sys.init st0 reqs).run plan sched).pcs.length = reqs.length :=
  (SysInv.run plan ok reqs sched _ (SysInv.init plan st0 h0 reqs)).2.1

/-- sequential consistency of the step model: one thread scheduled alone, long enough, ends in exactly the state
    and with exactly the result of `lookup` (no invariant needed) -/
theorem C19_single_thread (st : St K F E) (ck : CKey K) :
    ∃ n, (Sys.init st [ck]).run plan (List.replicate n 0) =
      ⟨(lookup plan st ck).1, [.done (lookup plan st ck).2]⟩ := by
  obtain ⟨n, hn⟩ := reach_lookup plan st ck
  refine ⟨n, ?_⟩
  show (Sys.mk st [startPC ck]).run plan (List.replicate n 0) = _
  rw [run_single, hn]

end

/-!
Non-vacuity: a concrete plan, two threads, an interleaved schedule.  Key `0` has two ranks: handler `10` (code
object `5`) and below it handler `11` (code object `6`), so a resolution publishes `cache[(5, 0)] = 11` first and
`cache[(none, 0)] = 10` last.  Thread 0 looks up the ordinary key `(none, 0)`, thread 1 the continuation key
`(some 5, 0)`; both miss and both resolve, their dict writes interleaved. -/

def exPlan : Nat → Plan Nat Nat := fun k =>
  if k = 0 then
    { ranks := [{ func := some 10, codes := [5], err := 100 }, { func := some 11, codes := [6], err := 101 }],
      allCodes := [5, 6] }
  else { ranks := [], allCodes := [] }

def exSched : List Nat := [1, 0, 1, 0, 0, 1, 1, 0, 1, 0, 1, 0, 0, 1, 1, 1, 1, 1]

def exRun : Sys Nat Nat Nat :=
  (Sys.init (St.empty : St Nat Nat Nat) [(none, 0), (some 5, 0)]).run exPlan exSched

/-- both threads finish, with the pure answers; the state is the fully resolved one -/
example : exRun.pcs.map PC.result = [some (.ok 10), some (.ok 11)] ∧
    pureLookup exPlan (none, 0) = .ok 10 ∧ pureLookup exPlan (some 5, 0) = .ok 11 ∧
    exRun.st.cache (none, 0) = some 10 ∧ exRun.st.cache (some 5, 0) = some 11 ∧
    exRun.st.all 0 = some [5, 6] := by decide

/-- one step earlier thread 1 has not finished: the schedule really is an interleaving of unfinished threads,
    and thread 1 did take the miss path (its own resolution wrote twice: four cache writes in all) -/
example : ((Sys.init (St.empty : St Nat Nat Nat) [(none, 0), (some 5, 0)]).run exPlan
      (exSched.take 17)).pcs.map PC.result = [some (.ok 10), none] ∧
    exRun.st.cacheKeys = [(none, 0), (none, 0), (some 5, 0), (some 5, 0)] ∧ exRun.st.allKeys = [0, 0] := by
  decide

/-- the hypotheses of the theorems hold for the example -/
example : PlanOK exPlan where
  codes_nodup := by
    intro k
    by_cases h : k = 0
    · subst h; decide
    · simp [exPlan, h, rankCodes]
  codes_sub := by
    intro k
    by_cases h : k = 0
    · subst h; decide
    · simp [exPlan, h, rankCodes]

end Ovld.ConcLookup

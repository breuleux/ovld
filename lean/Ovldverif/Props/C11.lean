import Ovldverif.Lemmas.DepCheck
/-!
# C11 — generated checking code agrees with `isinstance` on the same value-dependent type

`genCheck` / `memberCheck` are the model of the code strings produced by `generate_checking_code`
(`Literal` table membership, `FuncDependentType` condition call, bound-guarded parenthesised members of a
`Union` / `Intersection`); `isinstanceOf` is the documented meaning (`isinstance(value, T)`).
-/
set_option autoImplicit false
namespace Ovld

/-- a Literal's generated check, inside its bound, is membership of the value among the literal's values -/
theorem C11_literal (W : DWorld) (keys : List Nat) (b : Ty) (v : DVal) (hb : isinstanceOf W b v = .yes) :
    genCheck W (.lit keys b) v = isinstanceOf W (.lit keys b) v ∧
    (isinstanceOf W (.lit keys b) v = .yes ↔ v.eq ∈ keys) := by
  refine ⟨genCheck_bounded W v rfl hb (fun _ => nofun), ?_⟩
  rw [isinstanceOf_lit, hb]
  exact (Tri.ofBool_eq_yes _).trans List.contains_iff_mem

/-- a user condition / built-in `FuncDependentType` check, inside its bound, is the condition itself -/
theorem C11_fdep (W : DWorld) (fn : Nat) (ps : List (Option Nat)) (b : Ty) (v : DVal)
    (hb : isinstanceOf W b v = .yes) :
    genCheck W (.fdep fn ps b) v = isinstanceOf W (.fdep fn ps b) v :=
  genCheck_bounded W v rfl hb (fun _ => nofun)

/-- inside a Union / Intersection every value-dependent member with a class bound is checked *within its
    bound* (the guard of the `fix:` for finding D7): the member's parenthesised code is exactly `isinstance`.

    `htop` (every class is a subclass of `object`, `Hier.WF.top`) is needed because the generated code omits the
    guard when the bound is `object` (`.cls 0`): see the last `example` of Props/C01Dep.lean. -/
theorem C11_member_guarded (W : DWorld) (t : Ty) (c : Nat) (v : DVal)
    (htop : W.H.sub v.cls 0 = true)
    (ht : (∃ keys, t = .lit keys (.cls c)) ∨ (∃ fn ps, t = .fdep fn ps (.cls c))) :
    memberCheck W (t.size + 1) t v = isinstanceOf W t v := by
  refine memberCheck_guardable W v htop t ?_ _ (Nat.lt_succ_self _)
  rcases ht with ⟨keys, rfl⟩ | ⟨fn, ps, rfl⟩
  · exact .lit keys _ (.cls c) rfl
  · exact .fdep fn ps _ (.cls c) rfl

end Ovld

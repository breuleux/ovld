import Ovldverif.Lemmas.Fuel
/-! # C13 — type-level matching agrees with the documented meaning of each type -/
set_option autoImplicit false
namespace Ovld

variable (H : Hier)

theorem C13_refl (t : Ty) : subclasscheck H t t = true := by
  rw [subclasscheck_eq, subcStep, Ty.beq_refl]; rfl

/-- it equals `issubclass` on plain classes -/
theorem C13_cls (wf : H.WF) (a b : Nat) : subclasscheck H (.cls a) (.cls b) = H.sub a b := by
  rw [subclasscheck_cls_cls]
  cases h : a == b
  · rfl
  · rw [← eq_of_beq h, wf.refl]; rfl

theorem C13_cls_trans (wf : H.WF) (a b c : Nat)
    (h1 : subclasscheck H (.cls a) (.cls b) = true) (h2 : subclasscheck H (.cls b) (.cls c) = true) :
    subclasscheck H (.cls a) (.cls c) = true := by
  rw [C13_cls H wf] at *; exact wf.trans a b c h1 h2

-- `mem`, `Ty.plain`, `Ty.downClosed` and their list versions compute on constructors: a hypothesis about a non-empty
-- list is a conjunction `(_ && _) = true` as it stands
mutual
/-- **type-level matching = documented meaning**: for every non-value-dependent type `T` built from
    classes, unions, intersections, `Exactly`, `StrictSubclass`, `HasMethod` and class predicates, and
    every class `c`, `subclasscheck(c, T)` holds exactly when `c` satisfies what `T` is documented to mean -/
theorem C13_mem (wf : H.WF) (c : Nat) (T : Ty) (hp : T.plain = true) :
    subclasscheck H (.cls c) T = mem H c T := by
  -- generic aliases, `Literal`, `tuple[...]` and `Dependent` are not `plain`: `hp` rules them out
  match T with
  | .cls d => exact C13_cls H wf c d
  | .union ts => rw [subclasscheck_union (t := .cls c) nofun]; exact subclasscheck_memAny wf c ts hp
  | .inter ts => rw [subclasscheck_inter (t := .cls c) nofun]; exact subclasscheck_memAll wf c ts hp
  | .exactly .. | .strict .. | .hasm .. | .pred .. => exact subclasscheck_ne nofun
theorem subclasscheck_memAny (wf : H.WF) (c : Nat) (ts : List Ty) (hp : Ty.plainL ts = true) :
    ts.any (fun t => subclasscheck H (.cls c) t) = memAny H c ts :=
  match ts with
  | [] => rfl
  | t :: ts => by
    have hp := Bool.and_eq_true_iff.1 hp
    show (subclasscheck H (.cls c) t || ts.any _) = (mem H c t || memAny H c ts)
    rw [C13_mem wf c t hp.1, subclasscheck_memAny wf c ts hp.2]
theorem subclasscheck_memAll (wf : H.WF) (c : Nat) (ts : List Ty) (hp : Ty.plainL ts = true) :
    ts.all (fun t => subclasscheck H (.cls c) t) = memAll H c ts :=
  match ts with
  | [] => rfl
  | t :: ts => by
    have hp := Bool.and_eq_true_iff.1 hp
    show (subclasscheck H (.cls c) t && ts.all _) = (mem H c t && memAll H c ts)
    rw [C13_mem wf c t hp.1, subclasscheck_memAll wf c ts hp.2]
end

mutual
/-- membership is inherited along subclassing for down-closed types (no `Exactly`, `HasMethod`,
    predicate inside): the fragment on which the subtype test is transitive through a class -/
theorem mem_down (wf : H.WF) (anti : H.Antisym) (a b : Nat) (hab : H.sub a b = true) (T : Ty)
    (hd : T.downClosed = true) (hm : mem H b T = true) : mem H a T = true := by
  match T with
  | .cls d => exact wf.trans a b d hab hm
  | .union ts => exact memAny_down wf anti a b hab ts hd hm
  | .inter ts => exact memAll_down wf anti a b hab ts hd hm
  | .strict t d =>
    have hm := Bool.and_eq_true_iff.1 hm
    -- `a = d` would put `b` between `d` and itself
    exact Bool.and_eq_true_iff.2
      ⟨wf.trans a b d hab hm.1, bne_iff_ne.2 fun e => bne_iff_ne.1 hm.2 (anti b d hm.1 (e ▸ hab))⟩
theorem memAny_down (wf : H.WF) (anti : H.Antisym) (a b : Nat) (hab : H.sub a b = true) (ts : List Ty)
    (hd : Ty.downClosedL ts = true) (hm : memAny H b ts = true) : memAny H a ts = true := by
  match ts with
  | t :: ts =>
    have hd := Bool.and_eq_true_iff.1 hd
    exact Bool.or_eq_true_iff.2 ((Bool.or_eq_true_iff.1 hm).imp (mem_down wf anti a b hab t hd.1)
      (memAny_down wf anti a b hab ts hd.2))
theorem memAll_down (wf : H.WF) (anti : H.Antisym) (a b : Nat) (hab : H.sub a b = true) (ts : List Ty)
    (hd : Ty.downClosedL ts = true) (hm : memAll H b ts = true) : memAll H a ts = true := by
  match ts with
  | [] => rfl
  | t :: ts =>
    have hd := Bool.and_eq_true_iff.1 hd
    have hm := Bool.and_eq_true_iff.1 hm
    exact Bool.and_eq_true_iff.2 ⟨mem_down wf anti a b hab t hd.1 hm.1, memAll_down wf anti a b hab ts hd.2 hm.2⟩
end

mutual
theorem Ty.plain_of_downClosed (T : Ty) (hd : T.downClosed = true) : T.plain = true := by
  match T with
  | .cls _ | .strict .. => rfl
  | .union ts | .inter ts => exact Ty.plainL_of_downClosedL ts hd
theorem Ty.plainL_of_downClosedL (ts : List Ty) (hd : Ty.downClosedL ts = true) : Ty.plainL ts = true := by
  match ts with
  | [] => rfl
  | t :: ts =>
    have hd := Bool.and_eq_true_iff.1 hd
    exact Bool.and_eq_true_iff.2 ⟨Ty.plain_of_downClosed t hd.1, Ty.plainL_of_downClosedL ts hd.2⟩
end

/-- transitivity through a class, on the down-closed fragment (it cannot hold through `Exactly[...]`:
    see `C13_trans_exactly_counterexample`) -/
theorem C13_trans_partial (wf : H.WF) (anti : H.Antisym) (a b : Nat) (T : Ty) (hd : T.downClosed = true)
    (h1 : subclasscheck H (.cls a) (.cls b) = true) (h2 : subclasscheck H (.cls b) T = true) :
    subclasscheck H (.cls a) T = true := by
  have hp := Ty.plain_of_downClosed T hd
  rw [C13_cls H wf] at h1
  rw [C13_mem H wf _ _ hp] at h2 ⊢
  exact mem_down H wf anti a b h1 T hd h2

def exH : Hier := { sub := fun a b => a == b || b == 0 || (a == 2 && b == 1), hasAttr := fun _ _ => false, pred := fun _ _ => false }
/-- finding D17: `B ≤ A ≤ Exactly[A]` but `B ≰ Exactly[A]` — inherent in what `Exactly` means -/
theorem C13_trans_exactly_counterexample :
    subclasscheck exH (.cls 2) (.cls 1) = true ∧ subclasscheck exH (.cls 1) (.exactly 7 1) = true ∧
    subclasscheck exH (.cls 2) (.exactly 7 1) = false := by decide +kernel

end Ovld

import Ovldverif.Lemmas.FnInv
import Ovldverif.Lemmas.StaticRank
/-!
# C02 — static resolution follows the documented priority-then-specificity rule

For tables whose declared types are plain classes (classes, ABCs, protocols) over a well-formed, antisymmetric
hierarchy, for EVERY hierarchy, method table, key, and every iteration order of the library's sets: the lookup
returns the unique applicable method that beats every other applicable one (`specResolve`), or the ambiguity /
no-method error — under the two hypotheses that delimit the known findings D1 (`candComparable`) and D21
(`sigTieOK`).

Not used by the proofs (here and in C06): `tableWF`, `k ≠ []`, the distinct-slots half of `keyWF`.  The `k ≠ []`
theorems and their `_zero_args` twins are two instances of `pure_agrees`, which has no such split.
-/
set_option autoImplicit false
namespace Ovld

theorem C02_partial (cfg : Cfg) (ms : List Meth) (wf : cfg.H.WF) (anti : cfg.H.Antisym)
    (hd : DistinctHandlers ms) (hst : staticTable ms = true) (htw : tableWF ms = true)
    (k : Key) (hk : keyWF k = true) (hne : k ≠ [])
    (hcc : candComparable cfg.H ms k = true) (htie : sigTieOK cfg.H ms k = true) :
    specAgrees (pureLookup (plan cfg ms) (none, k)) (specResolve cfg.H ms k) := by
  have _ := htw; have _ := hne
  exact pure_agrees cfg ms wf anti hd.ids hst k (keyWF_cls hk) hcc htie

/-- ... hence so does the real table after any history of lookups (`MMap.lookup_after`) -/
theorem C02_table (cfg : Cfg) (ms : List Meth) (wf : cfg.H.WF) (anti : cfg.H.Antisym)
    (hd : DistinctHandlers ms) (hst : staticTable ms = true) (htw : tableWF ms = true)
    (k : Key) (hk : keyWF k = true) (hne : k ≠ [])
    (hcc : candComparable cfg.H ms k = true) (htie : sigTieOK cfg.H ms k = true)
    (hist : List (CKey Key)) :
    specAgrees (((MMap.fresh ms).runLookups cfg hist).lookup cfg (none, k)).2 (specResolve cfg.H ms k) := by
  rw [MMap.lookup_after cfg ms hd]
  exact C02_partial cfg ms wf anti hd hst htw _ hk hne hcc htie

/-!
The call without arguments: the key `[]` is resolved like every other key (`Model/MultiMap.lean: zeroArgIds`, the
`fix:` for finding D9): the methods that require no argument compete on priority, then recency between identical signatures;
`candComparable` is vacuous (there is no slot to compare). -/

theorem C02_partial_zero_args (cfg : Cfg) (ms : List Meth) (wf : cfg.H.WF) (anti : cfg.H.Antisym)
    (hd : DistinctHandlers ms) (hst : staticTable ms = true) (htw : tableWF ms = true)
    (htie : sigTieOK cfg.H ms [] = true) :
    specAgrees (pureLookup (plan cfg ms) (none, [])) (specResolve cfg.H ms []) := by
  have _ := htw
  exact pure_agrees cfg ms wf anti hd.ids hst [] (fun _ h => by cases h) (candComparable_nil cfg.H ms) htie

theorem C02_table_zero_args (cfg : Cfg) (ms : List Meth) (wf : cfg.H.WF) (anti : cfg.H.Antisym)
    (hd : DistinctHandlers ms) (hst : staticTable ms = true) (htw : tableWF ms = true)
    (htie : sigTieOK cfg.H ms [] = true) (hist : List (CKey Key)) :
    specAgrees (((MMap.fresh ms).runLookups cfg hist).lookup cfg (none, [])).2 (specResolve cfg.H ms []) := by
  rw [MMap.lookup_after cfg ms hd]
  exact C02_partial_zero_args cfg ms wf anti hd hst htw htie

end Ovld

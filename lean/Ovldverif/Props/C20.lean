import Ovldverif.Lemmas.FnInv
/-!
# C20 — each argument-type combination is resolved at most once between changes

`resolve` is the only caller of `mro` / `sort_types` / `typeorder` / `subclasscheck`, hence of the user's class
predicates and hooks.  `MMap.resolvesAt` says whether a lookup runs it; `Fn.nres` counts the lookups of a call
that did.
-/
set_option autoImplicit false
namespace Ovld

/-- a cache hit never resolves (and then the lookup leaves the caches as they are: `no_resolve_no_change`) -/
theorem C20_hit (cfg : Cfg) (mm : MMap) (ck : CKey Key) (e : Entry) (h : mm.st.cache ck = some e) :
    mm.resolvesAt cfg ck = false := by
  obtain ⟨c, k⟩ := ck
  exact (resolves_eq_false (plan cfg mm.meths)).2 (Or.inl (h ▸ Option.some_ne_none e))

/-- table level: once a lookup has succeeded, the same lookup never resolves again, whatever other lookups
    happen in between -/
theorem C20_table (cfg : Cfg) (ms : List Meth) (hd : DistinctHandlers ms)
    (hist1 : List (CKey Key)) (ck : CKey Key) (e : Entry)
    (hok : (((MMap.fresh ms).runLookups cfg hist1).lookup cfg ck).2 = .ok e) (hist2 : List (CKey Key)) :
    ((((MMap.fresh ms).runLookups cfg hist1).lookup cfg ck).1.runLookups cfg hist2).resolvesAt cfg ck = false := by
  have ok := hd.planOK cfg
  have h1 := (MMap.runLookups_inv cfg ms ok hist1 _ (MMap.fresh_inv cfg ms)).1
  have h2 := (MMap.lookup_spec cfg ms ok _ h1 ck).2
  have hw := MMap.warm_of_lookup_eq_ok cfg _ ck e hok
  exact (MMap.runLookups_inv cfg ms ok hist2 _ h2).2 ck hw

/-- function level: after a call has been handled successfully, repeating it — directly, and for every
    `recurse` / `call_next` / `f.next` lookup its methods perform — runs no resolution at all, whatever other
    calls happened in between -/
theorem C20_fn (cfg : Cfg) (ds : List (Def × Int)) (hd : DistinctHandlers (Fn.methsOf ds))
    (hist1 : List Call) (c : Call) (id : Nat)
    (hok : Fn.outcome (((Fn.fresh ds).runCalls cfg hist1).call cfg c) = .ran id) (hist2 : List Call) :
    Fn.nres (((((Fn.fresh ds).runCalls cfg hist1).call cfg c).1.runCalls cfg hist2).call cfg c) = 0 := by
  have ok := hd.planOK (Fn.cfgOf cfg ds)
  cases ha : analyze (ds.map (·.1.d)) with
  | error err =>
    rw [Fn.runCalls_fresh_err cfg ds err ha hist1, Fn.call_fresh_err cfg ds err ha c] at hok
    cases hok
  | ok ana =>
    obtain ⟨fnA, hA, hcall⟩ := Fn.runCalls_fresh_ok cfg ds ana ok ha hist1
    rw [hcall c] at hok ⊢
    have hB := hA.call cfg ds ana ok c
    have hC := runCalls_inv cfg ds ana ok hist2 _ hB
    exact (call_rel cfg ds ana ok fnA _ hA hC.1 c).warm id hok hC.2

end Ovld

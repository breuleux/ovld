import Ovldverif.Model.ConcBuild
import Ovldverif.Props.C18
/-!
# C19 (lazy build) — concurrent first calls behave like sequential calls

For every method set, every number of threads, every choice of routes and EVERY schedule (list of thread indices of
any length): a thread that has finished was either answered by the entry point of the complete method set over the
complete table, or got an error — and an error only if the method set really contains an offending method; the
function is left `Safe` (Props/C18.lean) once no thread holds the lock; and no schedule deadlocks (`C19_progress`).

`Cfg` is `Build.Cfg` (through `open Ovld.Build`); a file that also imports `Ovld.Cfg` must write `Build.Cfg`.
-/
set_option autoImplicit false
namespace Ovld.ConcBuild
open Ovld.Build

/-- the program counters at which the thread holds `_compile_lock` -/
def Held : PC → Prop
  | .chk2 | .bNew | .bNames | .bFill _ | .bSwap | .bFlag | .bFail | .rel => True
  | _ => False

/-- what the shared state (and the lock) must look like for thread `i` to be at this program counter; `D` = the
    definitions the function had when the threads started.  The entry point is in service only from `bFlag` on, the
    table complete from `bSwap` on. -/
def PcOK (cfg : Cfg) (D : List Nat) (s : S) (lock : Option Nat) (i : Nat) : PC → Prop
  | .chk1 | .acq | .disp => True
  | .chk2 | .rel => lock = some i ∧ Safe s
  | .bNew => lock = some i ∧ s.entry = none ∧ s.compiled = false
  | .bNames => lock = some i ∧ s.entry = none ∧ s.compiled = false ∧ s.table = []
  | .bFill rest => lock = some i ∧ s.entry = none ∧ s.compiled = false ∧ s.table ++ rest = D ∧
      cfg.namesOK D = true ∧ ∀ d ∈ s.table, cfg.bad d = false
  | .bSwap => lock = some i ∧ s.entry = none ∧ s.compiled = false ∧ s.table = D ∧ AllGood cfg D
  | .bFlag => lock = some i ∧ s.entry = some D ∧ s.table = D ∧ s.compiled = false
  | .bFail => lock = some i ∧ s.entry = none ∧ s.compiled = false ∧ ¬ AllGood cfg D
  | .look e => e = D ∧ s.entry = some D
  | .done o => o = .served D D ∨ (o = .error ∧ ¬ AllGood cfg D)

structure Inv (cfg : Cfg) (D : List Nat) (sys : Sys) : Prop where
  defns : sys.s.defns = D
  free : sys.lock = none → Safe sys.s
  holder : ∀ k, sys.lock = some k → ∃ t, sys.threads[k]? = some t ∧ Held t.pc
  pcs : ∀ j t, sys.threads[j]? = some t → PcOK cfg D sys.s sys.lock j t.pc

section
variable {cfg : Cfg} {D : List Nat} {sys : Sys} {s s' : S} {lock : Option Nat} {i : Nat} {pc pc' : PC}

theorem PcOK_held (h : PcOK cfg D s lock i pc) (hh : Held pc) : lock = some i := by
  cases pc with
  | chk1 | acq | disp | look _ | done _ => exact hh.elim
  | _ => exact h.1

def Building : PC → Prop
  | .bNew | .bNames | .bFill _ | .bSwap | .bFlag | .bFail => True
  | _ => False

theorem PcOK.not_compiled (h : PcOK cfg D s lock i pc) (hb : Building pc) : s.compiled = false := by
  cases pc with
  | bNew => exact h.2.2
  | bFlag => exact h.2.2.2
  | bNames | bFill _ | bSwap | bFail => exact h.2.2.1
  | _ => exact hb.elim

theorem PcOK_free (s' : S) (lock' : Option Nat) (hm : s.entry = some D → s'.entry = some D)
    (h : PcOK cfg D s lock i pc) (hh : ¬ Held pc) : PcOK cfg D s' lock' i pc := by
  cases pc with
  | look e => exact ⟨h.1, hm h.2⟩
  | chk1 | acq | disp | done _ => exact h
  | _ => exact (hh trivial).elim

theorem entry_of_safe (hd : s.defns = D) (hs : Safe s) (e : List Nat) (he : s.entry = some e) :
    e = D ∧ s.table = D := by
  rcases hs with hs | hs
  · exact nomatch hs.1.symm.trans he
  · exact ⟨Option.some.inj (he.symm.trans (hd ▸ hs.2.1)), hd ▸ hs.2.2⟩

/-- An entry point in service comes with the complete table even while another thread holds the lock, because the swap
    comes after the fill (the fix for D16a; `PcOK` at `bFlag`): this is what makes the `fn` route (`disp`, `look`) safe. -/
theorem Inv.entry (h : Inv cfg D sys) (e : List Nat) (he : sys.s.entry = some e) : e = D ∧ sys.s.table = D := by
  cases hl : sys.lock with
  | none => exact entry_of_safe h.defns (h.free hl) e he
  | some k =>
    obtain ⟨t, ht, hh⟩ := h.holder k hl
    have hpc := h.pcs k t ht
    generalize t.pc = pc at hh hpc
    cases pc with
    | chk1 | acq | disp | look _ | done _ => exact hh.elim
    | chk2 | rel => exact entry_of_safe h.defns hpc.2 e he
    | bFlag => exact ⟨Option.some.inj (he.symm.trans hpc.2.1), hpc.2.2.1⟩
    | _ => exact nomatch hpc.2.1.symm.trans he

/-- what a move of thread `i` has to establish (`Inv.move`): outside the lock nothing changes; the holder alone writes,
    and leaves a `Safe` state when it lets go of the lock -/
structure Moved (cfg : Cfg) (D : List Nat) (i : Nat) (s : S) (lock : Option Nat) (pc pc' : PC) (s' : S)
    (l' : Option Nat) : Prop where
  ok : PcOK cfg D s' l' i pc'
  defns : s'.defns = D
  mono : s.entry = some D → s'.entry = some D
  /-- an ordinary move, outside the lock before and after; or the holder's: the lock was free or `i`'s, and afterwards
      `i` is under it, or it is free and the state `Safe` -/
  who : (¬ Held pc ∧ ¬ Held pc' ∧ s' = s ∧ l' = lock) ∨
    ((lock = none ∨ lock = some i) ∧ (Held pc' ∨ (l' = none ∧ Safe s')))

theorem Inv.move (h : Inv cfg D sys) {t : Thread} (ht : sys.threads[i]? = some t) {l' : Option Nat}
    (m : Moved cfg D i sys.s sys.lock t.pc pc' s' l') :
    Inv cfg D { s := s', lock := l', threads := sys.threads.set i { t with pc := pc' } } := by
  have hlt : i < sys.threads.length := (List.getElem?_eq_some_iff.1 ht).1
  have hi : (sys.threads.set i { t with pc := pc' })[i]? = some { t with pc := pc' } := List.getElem?_set_self hlt
  refine ⟨m.defns, ?_, ?_, ?_⟩
  · intro (hn : l' = none)
    rcases m.who with ⟨_, _, rfl, rfl⟩ | ⟨_, hh | hr⟩
    · exact h.free hn
    · exact nomatch (PcOK_held m.ok hh).symm.trans hn
    · exact hr.2
  · intro k (hk : l' = some k)
    rcases m.who with ⟨hnh, _, rfl, rfl⟩ | ⟨_, hh | hr⟩
    · obtain ⟨tk, htk, hheld⟩ := h.holder k hk
      have hne : i ≠ k := by rintro rfl; exact hnh (Option.some.inj (ht.symm.trans htk) ▸ hheld)
      exact ⟨tk, (List.getElem?_set_ne hne).trans htk, hheld⟩
    · cases Option.some.inj ((PcOK_held m.ok hh).symm.trans hk)
      exact ⟨_, hi, hh⟩
    · exact nomatch hr.1.symm.trans hk
  · intro j tj (htj : (sys.threads.set i _)[j]? = some tj)
    by_cases hij : i = j
    · subst hij
      cases Option.some.inj (hi.symm.trans htj)
      exact m.ok
    · rw [List.getElem?_set_ne hij] at htj
      have hp := h.pcs j tj htj
      rcases m.who with ⟨_, _, rfl, rfl⟩ | ⟨hl, _⟩
      · exact hp
      · refine PcOK_free _ _ m.mono hp fun hheld => ?_
        have := PcOK_held hp hheld
        rcases hl with hl | hl <;> rw [hl] at this
        · cases this
        · exact hij (Option.some.inj this)

theorem Moved.free (hd : s.defns = D) (hnh : ¬ Held pc) (hnh' : ¬ Held pc') (ok : PcOK cfg D s lock i pc') :
    Moved cfg D i s lock pc pc' s lock :=
  ⟨ok, hd, id, .inl ⟨hnh, hnh', rfl, rfl⟩⟩

theorem Moved.acquire (hl : lock = none) (hh : Held pc') (ok : PcOK cfg D s (some i) i pc') (hd : s.defns = D) :
    Moved cfg D i s lock pc pc' s (some i) :=
  ⟨ok, hd, id, .inr ⟨.inl hl, .inl hh⟩⟩

theorem Moved.held (hl : lock = some i) (hh : Held pc') (ok : PcOK cfg D s' lock i pc') (hd : s'.defns = D)
    (mono : s.entry = some D → s'.entry = some D) : Moved cfg D i s lock pc pc' s' lock :=
  ⟨ok, hd, mono, .inr ⟨.inr hl, .inl hh⟩⟩

theorem Moved.release (hl : lock = some i) (hs : Safe s') (ok : PcOK cfg D s' none i pc') (hd : s'.defns = D)
    (mono : s.entry = some D → s'.entry = some D) : Moved cfg D i s lock pc pc' s' none :=
  ⟨ok, hd, mono, .inr ⟨.inr hl, .inr ⟨rfl, hs⟩⟩⟩

theorem Inv.step (h : Inv cfg D sys) (i : Nat) : Inv cfg D (stepThread cfg sys i) := by
  unfold stepThread
  cases ht : sys.threads[i]? with
  | none => exact h
  | some t =>
    have hpc := h.pcs i t ht
    have hd := h.defns
    have mv {pc' s' l'} := Inv.move h ht (pc' := pc') (s' := s') (l' := l')
    obtain ⟨r, pc⟩ := t
    cases pc with
    | chk1 => exact ite_of (fun _ => mv (.free hd id id trivial)) (fun _ => mv (.free hd id id trivial))
    | acq =>
      cases hl : sys.lock with
      | none => exact mv (.acquire hl trivial ⟨rfl, h.free hl⟩ hd)
      | some j =>
        refine ite_of (fun hji => ?_) (fun _ => h)
        subst hji
        obtain ⟨tk, htk, hheld⟩ := h.holder j hl
        cases Option.some.inj (htk.symm.trans ht)
        exact hheld.elim
    | chk2 =>
      obtain ⟨hl, hs⟩ := hpc
      refine ite_of (fun _ => mv ?_) (fun hc => mv ?_)
      · exact .held hl trivial ⟨hl, hs⟩ hd id
      · exact .held hl trivial ⟨hl, hs.pre (Bool.eq_false_iff.2 hc), Bool.eq_false_iff.2 hc⟩ hd id
    | bNew =>
      obtain ⟨hl, h1, h2⟩ := hpc
      exact mv (.held hl trivial ⟨hl, h1, h2, rfl⟩ hd id)
    | bNames =>
      obtain ⟨hl, h1, h2, h3⟩ := hpc
      refine ite_of (fun hn => mv ?_) (fun hn => mv ?_)
      · exact .held hl trivial ⟨hl, h1, h2, by rw [h3, hd]; rfl, hd ▸ hn, by rw [h3]; nofun⟩ hd id
      · exact .held hl trivial ⟨hl, h1, h2, fun hg => hn (hd ▸ hg.1)⟩ hd id
    | bFill rest =>
      obtain ⟨hl, h1, h2, h3, h4, h5⟩ := hpc
      cases rest with
      | nil =>
        rw [List.append_nil] at h3
        exact mv (.held hl trivial ⟨hl, h1, h2, h3, h4, h3 ▸ h5⟩ hd id)
      | cons d rest =>
        refine ite_of (fun hb => mv ?_) (fun hb => mv ?_)
        · exact .held hl trivial ⟨hl, h1, h2, fun hg => nomatch (hg.2 d (h3 ▸ by simp)).symm.trans hb⟩ hd id
        · refine .held hl trivial ⟨hl, h1, h2, by simpa using h3, h4, fun x hx => ?_⟩ hd id
          rcases List.mem_append.1 hx with hx | hx
          · exact h5 x hx
          · cases List.mem_singleton.1 hx; exact Bool.eq_false_iff.2 hb
    | bSwap =>
      obtain ⟨hl, h1, h2, h3, h4⟩ := hpc
      exact mv (.held hl trivial ⟨hl, congrArg some hd, h3, h2⟩ hd fun _ => congrArg some hd)
    | bFlag =>
      obtain ⟨hl, h1, h2, h3⟩ := hpc
      exact mv (.held hl trivial ⟨hl, .inr ⟨rfl, h1.trans (congrArg some hd.symm), h2.trans hd.symm⟩⟩ hd id)
    | bFail =>
      obtain ⟨hl, h0, _, h1⟩ := hpc
      exact mv (.release hl (handler_safe _) (.inr ⟨rfl, h1⟩) hd fun he => nomatch h0.symm.trans he)
    | rel => exact mv (.release hpc.1 hpc.2 trivial hd id)
    | disp =>
      dsimp only
      split
      · rename_i e he
        exact mv (.free hd id id ⟨(h.entry e he).1, (h.entry e he).1 ▸ he⟩)
      · exact mv (.free hd id id trivial)
    | look e =>
      obtain ⟨rfl, hen⟩ := hpc
      exact mv (.free hd id id (.inl (by rw [(h.entry e hen).2])))
    | done o => exact h

theorem Inv.run : ∀ (sched : List Nat) {sys : Sys}, Inv cfg D sys → Inv cfg D (run cfg sys sched)
  | [], _, h => h
  | i :: sched, _, h => Inv.run sched (h.step i)

end

theorem Inv.reach (cfg : Cfg) (s : S) (hs : Safe s) (routes : List Route) (sched : List Nat) :
    Inv cfg s.defns (ConcBuild.run cfg (ConcBuild.init s routes) sched) := by
  refine Inv.run sched ⟨rfl, fun _ => hs, nofun, fun j t ht => ?_⟩
  obtain ⟨r, _, rfl⟩ := List.getElem?_map.symm.trans ht |> Option.map_eq_some_iff.1
  cases r <;> exact trivial

/-- **each call returns what it would have returned alone**: no spurious missing-method / ambiguity from a
    partially or doubly filled table -/
theorem C19_first_calls (cfg : Cfg) (s : S) (hs : Safe s) (routes : List Route) (sched : List Nat)
    (i : Nat) (r : Route) (o : Out)
    (hd : (run cfg (init s routes) sched).threads[i]? = some { route := r, pc := .done o }) :
    (o = .served s.defns s.defns) ∨ (o = .error ∧ ¬ AllGood cfg s.defns) :=
  (Inv.reach cfg s hs routes sched).pcs i _ hd

/-- **the function is left in a correct state**: whenever the lock is free the shared state is `Safe`, with the
    definitions unchanged -/
theorem C19_state_safe (cfg : Cfg) (s : S) (hs : Safe s) (routes : List Route) (sched : List Nat)
    (hl : (run cfg (init s routes) sched).lock = none) :
    Safe (run cfg (init s routes) sched).s ∧ (run cfg (init s routes) sched).s.defns = s.defns :=
  ⟨(Inv.reach cfg s hs routes sched).free hl, (Inv.reach cfg s hs routes sched).defns⟩

theorem Sys.set_ne {sys : Sys} {j : Nat} {t : Thread} (ht : sys.threads[j]? = some t) {pc' : PC} {s' : S}
    {l' : Option Nat} (hne : pc' ≠ t.pc) :
    ({ s := s', lock := l', threads := sys.threads.set j { t with pc := pc' } } : Sys) ≠ sys := fun heq =>
  hne (congrArg Thread.pc (Option.some.inj
    ((List.getElem?_set_self (List.getElem?_eq_some_iff.1 ht).1).symm.trans
      ((congrArg (·.threads[j]?) heq).trans ht))))

theorem stepThread_moves (cfg : Cfg) {sys : Sys} {j : Nat} {t : Thread} (ht : sys.threads[j]? = some t)
    (hnd : ∀ o, t.pc ≠ .done o) (hacq : t.pc = .acq → sys.lock = none ∨ sys.lock = some j) :
    stepThread cfg sys j ≠ sys := by
  unfold stepThread
  rw [ht]
  have ne {pc' s' l'} := @Sys.set_ne sys j t ht pc' s' l'
  obtain ⟨r, pc⟩ := t
  cases pc with
  | chk1 | chk2 | bNames => exact ite_of (P := (· ≠ sys)) (fun _ => ne nofun) (fun _ => ne nofun)
  | acq =>
    rcases hacq rfl with hl | hl <;> rw [hl]
    · exact ne nofun
    · exact ite_of (P := (· ≠ sys)) (fun _ => ne nofun) (fun h => (h rfl).elim)
  | bFill rest =>
    cases rest with
    | nil => exact ne nofun
    | cons d rest =>
      exact ite_of (P := (· ≠ sys)) (fun _ => ne nofun)
        (fun _ => ne fun h => List.cons_ne_self d rest (PC.bFill.inj h).symm)
  | disp => dsimp only; split <;> exact ne nofun
  | done o => exact (hnd o rfl).elim
  | _ => exact ne nofun

/-- no deadlock: as long as some thread has not finished, some thread can move -/
theorem C19_progress (cfg : Cfg) (s : S) (hs : Safe s) (routes : List Route) (sched : List Nat)
    (hnd : ∃ (i : Nat) (t : Thread), (run cfg (init s routes) sched).threads[i]? = some t ∧ ∀ o, t.pc ≠ .done o) :
    ∃ j, stepThread cfg (run cfg (init s routes) sched) j ≠ run cfg (init s routes) sched := by
  have hinv := Inv.reach cfg s hs routes sched
  generalize run cfg (init s routes) sched = sys at hnd hinv
  obtain ⟨i, t, ht, hnd⟩ := hnd
  cases hl : sys.lock with
  | none => exact ⟨i, stepThread_moves cfg ht hnd (fun _ => Or.inl hl)⟩
  | some k =>
    obtain ⟨tk, htk, hheld⟩ := hinv.holder k hl
    exact ⟨k, stepThread_moves cfg htk (fun o ho => (ho ▸ hheld : Held (.done o)))
      (fun ho => ((ho ▸ hheld : Held .acq)).elim)⟩

/-- non-vacuity: two threads racing the first call of a two-method function, pre-empted in the middle of the fill -/
example :
    let cfg : Cfg := ⟨fun _ => false, fun _ => true⟩
    let s : S := { defns := [1, 2] }
    let sys := run cfg (init s [.obj, .fn]) [0, 0, 0, 0, 0, 0, 1, 1, 1, 1, 1, 0, 0, 0, 0, 0, 0, 0, 1, 1, 1, 1, 1, 1, 1]
    sys.threads.map (·.pc) = [.done (.served [1, 2] [1, 2]), .done (.served [1, 2] [1, 2])] := by
  decide +kernel

end Ovld.ConcBuild

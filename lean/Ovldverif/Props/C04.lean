import Ovldverif.Lemmas.FnInv
/-!
# C04 — caching is invisible: a call's outcome never depends on earlier calls
-/
set_option autoImplicit false
namespace Ovld

/-- table level: after ANY history of lookups (ordinary keys and `call_next` continuation keys, succeeding,
    ambiguous or unmatched) a lookup on the public multi-type table returns what it returns on a table on
    which nothing was ever looked up -/
theorem C04_table (cfg : Cfg) (ms : List Meth) (hd : DistinctHandlers ms)
    (hist : List (CKey Key)) (ck : CKey Key) :
    (((MMap.fresh ms).runLookups cfg hist).lookup cfg ck).2 = ((MMap.fresh ms).lookup cfg ck).2 :=
  (MMap.runLookups_inv cfg ms (hd.planOK cfg) hist _ (MMap.fresh_inv cfg ms)).1.lookup_eq_fresh hd ck

/-- function level: for a fixed set of registered methods, the outcome of a call and the sequence of method
    bodies it enters (with the argument objects each receives) are the same whether it is the first call ever
    made or made after any sequence of other calls — including calls that failed and calls whose methods
    delegate through `recurse`, `call_next` or `f.next` with the same or other arguments -/
theorem C04_fn (cfg : Cfg) (ds : List (Def × Int)) (hd : DistinctHandlers (Fn.methsOf ds))
    (hist : List Call) (c : Call) :
    Fn.outcome (((Fn.fresh ds).runCalls cfg hist).call cfg c) = Fn.outcome ((Fn.fresh ds).call cfg c) ∧
    Fn.trace (((Fn.fresh ds).runCalls cfg hist).call cfg c) = Fn.trace ((Fn.fresh ds).call cfg c) := by
  have ok := hd.planOK (Fn.cfgOf cfg ds)
  cases ha : analyze (ds.map (·.1.d)) with
  | error err => rw [Fn.runCalls_fresh_err cfg ds err ha hist]; exact ⟨rfl, rfl⟩
  | ok ana =>
    obtain ⟨fnH, hH, hcall⟩ := Fn.runCalls_fresh_ok cfg ds ana ok ha hist
    rw [hcall c, Fn.call_fresh_ok cfg ds ana ha c]
    have r := call_rel cfg ds ana ok fnH (Fn.built ds ana) hH (Fn.built_inv cfg ds ana) c
    exact ⟨r.outcome, r.trace⟩

end Ovld

import Ovldverif.Spec.Runs
import Ovldverif.Lemmas.StaticRank
import Ovldverif.Lemmas.MkRanks
/-!
# C07, whole chains — what a sequence of `call_next` calls that forward the call's own arguments visits

A chain of methods each of which forwards the call's own key `k` to `call_next` visits rank 0, rank 1, ... of the
resolution of `k`, in that order, and ends with the ambiguity of the first tied rank or with "No method" below the
last rank.  `walk plan codeOf k n r` is the list of lookup results along the chain, from the result `r` of the fresh
lookup on; a handler `f` with `codeOf f = none` has no code object and cannot call `call_next`.
-/
set_option autoImplicit false
namespace Ovld

section
variable {K F E : Type} [DecidableEq K] (plan : K → Plan F E)

def walk (codeOf : F → Option Code) (k : K) : Nat → Res F E → List (Res F E)
  | 0, r => [r]
  | n + 1, .ok f =>
    .ok f :: (match codeOf f with
      | some c => walk codeOf k n (pureLookup plan (some c, k))
      | none => [])
  | _ + 1, r => [r]

/-- index of the first tied rank (a rank without a single handler / dispatcher), or the number of ranks -/
def firstTied (rs : List (Rank F E)) : Nat := rs.findIdx (fun r => r.func.isNone)

def expectedWalk (rs : List (Rank F E)) : List (Res F E) :=
  (rs.take (firstTied rs)).map (fun r => resOfRank (some r)) ++ [resOfRank rs[firstTied rs]?]

theorem walk_not_ok (codeOf : F → Option Code) (k : K) (n : Nat) (r : Res F E) (h : ∀ f, r ≠ .ok f) :
    walk plan codeOf k n r = [r] := by
  cases n with
  | zero => rfl
  | succ n =>
    cases r with
    | ok f => exact absurd rfl (h f)
    | _ => rfl

theorem firstTied_cons_none (r : Rank F E) (rs : List (Rank F E)) (h : r.func = none) :
    firstTied (r :: rs) = 0 := by
  unfold firstTied; rw [List.findIdx_cons, h]; rfl

theorem expectedWalk_cons_none (r : Rank F E) (rs : List (Rank F E)) (h : r.func = none) :
    expectedWalk (r :: rs) = [.amb r.err] := by
  unfold expectedWalk
  rw [firstTied_cons_none r rs h, List.take_zero, List.getElem?_cons_zero, resOfRank_some, h]
  rfl

theorem firstTied_cons_some (r : Rank F E) (rs : List (Rank F E)) (f : F) (h : r.func = some f) :
    firstTied (r :: rs) = firstTied rs + 1 := by
  unfold firstTied; rw [List.findIdx_cons, h]; rfl

theorem expectedWalk_cons_some (r : Rank F E) (rs : List (Rank F E)) (f : F) (h : r.func = some f) :
    expectedWalk (r :: rs) = .ok f :: expectedWalk rs := by
  unfold expectedWalk
  rw [firstTied_cons_some r rs f h, List.take_succ_cons, List.getElem?_cons_succ, List.map_cons, resOfRank_some, h]
  rfl

theorem take_firstTied_cons (r : Rank F E) (rs : List (Rank F E)) (f : F) (h : r.func = some f) :
    (r :: rs).take (firstTied (r :: rs)) = r :: rs.take (firstTied rs) := by
  rw [firstTied_cons_some r rs f h, List.take_succ_cons]

/-- the walk from the rank at the head of `below` on, the ranks `above` having been entered -/
theorem walk_below (ok : PlanOK plan) (codeOf : F → Option Code) (k : K) (hf : (plan k).fail = false)
    (below : List (Rank F E)) : ∀ (above : List (Rank F E)) (n : Nat), (plan k).ranks = above ++ below →
    (∀ r ∈ above, r.live = true) →
    (∀ r ∈ below.take (firstTied below), ∃ f c, r.func = some f ∧ codeOf f = some c ∧ c ∈ r.codes) →
    below.length ≤ n → walk plan codeOf k n (resOfRank below.head?) = expectedWalk below := by
  induction below with
  | nil => intro _ n _ _ _ _; exact walk_not_ok plan codeOf k n _ (fun f e => by cases e)
  | cons r below ih =>
    intro above n hr hlive hgood hn
    cases hfn : r.func with
    | none =>
      rw [expectedWalk_cons_none r below hfn]
      rw [List.head?_cons, resOfRank_some, hfn]
      exact walk_not_ok plan codeOf k n _ (fun f e => by cases e)
    | some f =>
      rw [take_firstTied_cons r below f hfn] at hgood
      obtain ⟨f', c, hf', hc, hmem⟩ := hgood r List.mem_cons_self
      cases hfn.symm.trans hf'
      obtain ⟨n, rfl⟩ : ∃ n', n = n' + 1 := ⟨n - 1, by simp at hn; omega⟩
      have hfs : r.func.isSome = true := by rw [hfn]; rfl
      rw [expectedWalk_cons_some r below f hfn, List.head?_cons, resOfRank_some, hfn]
      show Res.ok f :: (match codeOf f with | some c => walk plan codeOf k n (pureNext plan c k) | none => []) = _
      simp only [hc]
      rw [step_split plan ok k c above r below hr hf hlive hfs hmem,
        ih (above ++ [r]) n (by rw [hr, List.append_assoc]; rfl)
          (fun r' hr' => (List.mem_append.mp hr').elim (hlive r') fun h => List.eq_of_mem_singleton h ▸ Rank.live_of_mem hfs hmem)
          (fun r' hr' => hgood r' (List.mem_cons_of_mem _ hr')) (by simpa using hn)]

/-- **whole chain, any plan**: when every rank above the first tied one is run by a handler whose code object is
    one of the rank's codes, a chain of `call_next` calls forwarding the call's own key sees the ranks in order,
    one at a time, then the ambiguity of the tied rank or "No method". -/
theorem walk_generic (ok : PlanOK plan) (codeOf : F → Option Code) (k : K)
    (hf : (plan k).fail = false)
    (hr : ∀ r ∈ (plan k).ranks.take (firstTied (plan k).ranks),
      ∃ f c, r.func = some f ∧ codeOf f = some c ∧ c ∈ r.codes) :
    walk plan codeOf k (plan k).ranks.length (pureLookup plan (none, k)) = expectedWalk (plan k).ranks := by
  rw [show pureLookup plan (none, k) = pureTop plan k from rfl, pureTop_eq_resOfRank plan k hf,
    ← List.head?_eq_getElem?]
  exact walk_below plan ok codeOf k hf _ [] _ rfl (fun _ h => by cases h) hr (Nat.le_refl _)

end

/-- the code object behind a table entry that is a single method (a chain stops at a dependent dispatcher) -/
def entryCode (ms : List Meth) : Entry → Option Code
  | .meth id => codeOf ms id
  | _ => none

/-- every rank above the first tied one is a single method that has a code object -/
def chainOK (ms : List Meth) (rs : List (Rank Entry (List Nat))) : Bool :=
  (rs.take (firstTied rs)).all (fun r =>
    match r.func with
    | some (.meth id) => (codeOf ms id).isSome
    | _ => false)

theorem chain_rank (ms : List Meth) (gs : List (List Cand)) (hc : chainOK ms (mkRanks ms gs) = true)
    (r : Rank Entry (List Nat)) (hr : r ∈ (mkRanks ms gs).take (firstTied (mkRanks ms gs))) :
    ∃ id c, r.func = some (.meth id) ∧ codeOf ms id = some c ∧ r.codes = [c] ∧ r.err = [id] := by
  have h1 := List.all_eq_true.mp hc r hr
  split at h1
  · rename_i id hf
    obtain ⟨c, hcode⟩ := Option.isSome_iff_exists.mp h1
    obtain ⟨herr, hcodes⟩ := mkRanks_meth ms gs r (List.mem_of_mem_take hr) id hf
    exact ⟨id, c, hf, hcode, by rw [hcodes]; simp [hcode], herr⟩
  · cases h1

/-- **whole chain, the table**, for any declared types, under `chainOK` -/
theorem C07_chain (cfg : Cfg) (ms : List Meth) (hd : DistinctHandlers ms) (k : Key)
    (hf : (plan cfg ms k).fail = false) (hc : chainOK ms (plan cfg ms k).ranks = true) :
    walk (plan cfg ms) (entryCode ms) k (plan cfg ms k).ranks.length (pureLookup (plan cfg ms) (none, k))
      = expectedWalk (plan cfg ms k).ranks := by
  obtain ⟨cs, _, hrk⟩ := plan_ranks_of_ok cfg ms k hf
  apply walk_generic (plan cfg ms) (plan_ok cfg ms hd.ids hd.codes) (entryCode ms) k hf
  intro r hr
  rw [hrk] at hc hr
  obtain ⟨id, c, hfn, hcode, hcodes, _⟩ := chain_rank ms _ hc r hr
  exact ⟨.meth id, c, hfn, hcode, by rw [hcodes]; exact List.mem_singleton.mpr rfl⟩

def walkIds : List (Res Entry (List Nat)) → List Nat
  | [] => []
  | .ok (.meth id) :: rest => id :: walkIds rest
  | _ :: rest => walkIds rest

theorem walkIds_expected (rs : List (Rank Entry (List Nat)))
    (h : ∀ r ∈ rs.take (firstTied rs), ∃ id, r.func = some (.meth id) ∧ r.err = [id]) :
    walkIds (expectedWalk rs) = (rs.take (firstTied rs)).flatMap (·.err) := by
  induction rs with
  | nil => rfl
  | cons r rs ih =>
    cases hfn : r.func with
    | none => rw [expectedWalk_cons_none r rs hfn, firstTied_cons_none r rs hfn]; rfl
    | some f =>
      rw [take_firstTied_cons r rs f hfn] at h ⊢
      obtain ⟨id, hf, he⟩ := h r List.mem_cons_self
      cases hfn.symm.trans hf
      rw [expectedWalk_cons_some r rs _ hfn, List.flatMap_cons, he]
      exact congrArg (id :: ·) (ih fun r' hr' => h r' (List.mem_cons_of_mem _ hr'))

theorem chain_ids (cfg : Cfg) (ms : List Meth) (hd : DistinctHandlers ms) (k : Key)
    (hf : (plan cfg ms k).fail = false) (hc : chainOK ms (plan cfg ms k).ranks = true) :
    ∃ cs, candidates cfg ms k = some cs ∧ (plan cfg ms k).ranks = mkRanks ms (ranks cs) ∧
      walkIds (walk (plan cfg ms) (entryCode ms) k (plan cfg ms k).ranks.length (pureLookup (plan cfg ms) (none, k)))
        = ((mkRanks ms (ranks cs)).take (firstTied (mkRanks ms (ranks cs)))).flatMap (·.err) := by
  obtain ⟨cs, hcs, hrk⟩ := plan_ranks_of_ok cfg ms k hf
  refine ⟨cs, hcs, hrk, ?_⟩
  rw [C07_chain cfg ms hd k hf hc, hrk]
  rw [hrk] at hc
  exact walkIds_expected _ fun r hr => (chain_rank ms _ hc r hr).imp fun _ ⟨_, hf, _, _, he⟩ => ⟨hf, he⟩

/-- **never the same method twice along a whole chain** -/
theorem C07_chain_nodup (cfg : Cfg) (ms : List Meth) (hd : DistinctHandlers ms) (k : Key)
    (hf : (plan cfg ms k).fail = false) (hc : chainOK ms (plan cfg ms k).ranks = true) :
    (walkIds (walk (plan cfg ms) (entryCode ms) k (plan cfg ms k).ranks.length
      (pureLookup (plan cfg ms) (none, k)))).Nodup := by
  obtain ⟨cs, hcs, _, hw⟩ := chain_ids cfg ms hd k hf hc
  rw [hw]
  have hall := ranks_ids_nodup (candidates_nodup cfg ms hd.ids k cs hcs)
  rw [← List.take_append_drop (firstTied (mkRanks ms (ranks cs))) (ranks cs), List.flatten_append,
    List.map_append] at hall
  rw [mkRanks_take_err]
  exact (List.nodup_append.mp hall).1

def antitone : List Int → Bool
  | a :: b :: rest => decide (a ≥ b) && antitone (b :: rest)
  | _ => true

theorem antitone_of_pairwise : ∀ l : List Int, l.Pairwise (· ≥ ·) → antitone l = true
  | [], _ => rfl
  | [_], _ => rfl
  | _ :: b :: rest, h =>
    have h' := List.pairwise_cons.mp h
    Bool.and_eq_true_iff.mpr ⟨decide_eq_true (h'.1 b List.mem_cons_self), antitone_of_pairwise (b :: rest) h'.2⟩

/-- **priorities never go up along a whole chain** -/
theorem C07_chain_prio (cfg : Cfg) (ms : List Meth) (hd : DistinctHandlers ms) (k : Key)
    (hf : (plan cfg ms k).fail = false) (hc : chainOK ms (plan cfg ms k).ranks = true) :
    antitone ((walkIds (walk (plan cfg ms) (entryCode ms) k (plan cfg ms k).ranks.length
      (pureLookup (plan cfg ms) (none, k)))).map (fun id => (methOf ms id).prio)) = true := by
  obtain ⟨cs, hcs, hrk, hw⟩ := chain_ids cfg ms hd k hf hc
  rw [hw]
  rw [hrk] at hc
  -- a prefix of singleton ranks is, flattened, a sublist of the sorted candidates
  have hsub := ranks_take_sublist cs _ (mkRanks_take_singletons ms _ _ fun r hr =>
    (chain_rank ms _ hc r hr).imp fun _ ⟨_, _, _, _, he⟩ => he)
  rw [mkRanks_take_err, List.map_map]
  apply antitone_of_pairwise
  rw [List.pairwise_map]
  refine ((sortCands_sorted cs).sublist hsub).imp_of_mem fun {a b} ha hb h => ?_
  have hp : ∀ c : Cand, c ∈ _ → c.prio = (methOf ms c.id).prio := fun c hc =>
    (candidates_methOf cfg ms hcs ((sortCands_perm cs).mem_iff.mp (hsub.subset hc))).1
  show (methOf ms a.id).prio ≥ (methOf ms b.id).prio
  rw [← hp a ha, ← hp b hb]
  exact keyGe_prio _ _ h

/-- **a chain that reaches "No method" has entered every rank**: when no rank is tied, the walk's ids are exactly the
    ids of all ranks (that every candidate of the key lands in some rank is not proved) -/
theorem C07_chain_exhaustive (cfg : Cfg) (ms : List Meth) (hd : DistinctHandlers ms) (k : Key)
    (hf : (plan cfg ms k).fail = false) (hc : chainOK ms (plan cfg ms k).ranks = true)
    (hnt : firstTied (plan cfg ms k).ranks = (plan cfg ms k).ranks.length) :
    walkIds (walk (plan cfg ms) (entryCode ms) k (plan cfg ms k).ranks.length
      (pureLookup (plan cfg ms) (none, k))) = (plan cfg ms k).ranks.flatMap (·.err) := by
  obtain ⟨cs, _, hrk, hw⟩ := chain_ids cfg ms hd k hf hc
  rw [hrk] at hnt
  rw [hw, hrk, hnt, List.take_length]

end Ovld

import Ovldverif.Lemmas.FnInv
/-!
# C18 (cache-miss resolution) — an interrupted resolution leaves nothing that later lookups can trip over

`resolve` collects its dict writes top-down and applies them bottom-up, the entry of the looked-up key last
(`Model/Cache.lean: ws`, the `fix:` for finding D35).  `lookupCut` is a lookup whose resolution is interrupted after
an arbitrary number `n` of those writes.  The cache invariant `CInv` only promises the `call_next` entries of a
key whose own entry is present, so every prefix of the writes preserves it: what a lookup returns after any history
(C04) stays true when the history contains interrupted lookups.
-/
set_option autoImplicit false
namespace Ovld

section generic
variable {K F E : Type} [DecidableEq K] (plan : K → Plan F E)

/-- an interrupted lookup preserves the cache invariant, wherever the interrupt falls -/
theorem inv_lookupCut (ok : PlanOK plan) (st : St K F E) (ck : CKey K) (n : Nat) (h : CInv plan st) :
    CInv plan (lookupCut plan st ck n) :=
  lookupCut_inv plan ok st ck n h

/-- **C18, resolution level**: after ANY history of completed and interrupted lookups (interrupted after any
    number of writes), a lookup returns what it returns on a table on which nothing was ever looked up -/
theorem C18_interrupted_lookups_harmless (ok : PlanOK plan) (hist : List (LOp K)) (ck : CKey K) :
    (lookup plan (runL plan (St.empty : St K F E) hist) ck).2 = pureLookup plan ck :=
  (lookup_spec plan ok _ ck (runL_inv plan ok hist _ (empty_inv plan))).1

end generic

/-- a history of completed and interrupted lookups on the public table -/
def MMap.runL (cfg : Cfg) (mm : MMap) : List (LOp Key) → MMap
  | [] => mm
  | .look ck :: rest => MMap.runL cfg (mm.lookup cfg ck).1 rest
  | .cut ck n :: rest => MMap.runL cfg (mm.lookupCut cfg ck n) rest

theorem MMap.runL_inv (cfg : Cfg) (ms : List Meth) (ok : PlanOK (plan cfg ms)) :
    ∀ (hist : List (LOp Key)) (mm : MMap), MInv cfg ms mm → MInv cfg ms (mm.runL cfg hist)
  | [], _, h => h
  | .look ck :: rest, mm, h => MMap.runL_inv cfg ms ok rest _ (MMap.lookup_spec cfg ms ok mm h ck).2
  | .cut ck n :: rest, mm, h => MMap.runL_inv cfg ms ok rest _ (MMap.lookupCut_inv cfg ms ok mm h ck n)

/-- the same on the public multi-type table of any set of methods with distinct handlers: ordinary keys and
    `call_next` continuation keys, any types -/
theorem C18_table (cfg : Cfg) (ms : List Meth) (hd : DistinctHandlers ms)
    (hist : List (LOp Key)) (ck : CKey Key) :
    (((MMap.fresh ms).runL cfg hist).lookup cfg ck).2 = ((MMap.fresh ms).lookup cfg ck).2 :=
  (MMap.runL_inv cfg ms (hd.planOK cfg) hist _ (MMap.fresh_inv cfg ms)).lookup_eq_fresh hd ck

end Ovld

import Ovldverif.Spec.Runs
import Ovldverif.Lemmas.Candidates
import Ovldverif.Lemmas.MkRanks
import Ovldverif.Lemmas.PureLookup
import Ovldverif.Props.C03
/-!
# C01 — a method only ever runs on arguments its declared signature accepts

Of the four layers of the claim, three are here ((4), from the generated condition to `isinstance`, is
`Props/C01Dep.lean`): (1) whatever the table returns for a key — directly or for a `call_next` continuation key, for ANY
declared types (classes, generics, unions, intersections, Exactly, ..., value-dependent types at their bound) —
only mentions handlers that are applicable to that key: arity, required keywords, and every key type a subtype
of the declared type; (2) CPython's binding of the forwarded arguments; (3) a value-dependent dispatcher only
selects a handler whose generated conditions all hold.
-/
set_option autoImplicit false
namespace Ovld

theorem lookup_applicable (cfg : Cfg) (ms : List Meth) (hd : DistinctHandlers ms) (c : Option Code) (k : Key)
    (e : Entry) (h : pureLookup (plan cfg ms) (c, k) = .ok e) :
    ∀ id ∈ e.handlers, ∃ m ∈ ms, m.id = id ∧ applicableTo cfg.H k m = true := by
  obtain ⟨r, hr, hf⟩ := pureLookup_ok_rank (plan cfg ms) (plan_ok cfg ms hd.ids hd.codes) c k e h
  cases hfail : (plan cfg ms k).fail with
  | true => rw [plan_ranks_of_fail hfail] at hr; cases hr
  | false =>
    obtain ⟨cs, hc, hrk⟩ := plan_ranks_of_ok cfg ms k hfail
    rw [hrk] at hr
    intro id hidm
    obtain ⟨cand, hcand, rfl⟩ := List.mem_map.mp ((mkRanks_ids ms _ r hr).2 e hf id hidm)
    exact candidates_sound cfg ms hd.ids k cs hc cand (mem_of_mem_ranks hcand)

/-- (1) every handler reachable from a looked-up entry is applicable to the key (`hne` is not used) -/
theorem C01_lookup_applicable (cfg : Cfg) (ms : List Meth) (hd : DistinctHandlers ms) (c : Option Code) (k : Key)
    (hne : k ≠ []) (e : Entry) (h : pureLookup (plan cfg ms) (c, k) = .ok e) :
    ∀ id ∈ e.handlers, ∃ m ∈ ms, m.id = id ∧ applicableTo cfg.H k m = true :=
  have _ := hne
  lookup_applicable cfg ms hd c k e h

/-- (1) for the call without arguments: the key `[]` is resolved like every other key (the `fix:` for finding D9) -/
theorem C01_lookup_applicable_zero_args (cfg : Cfg) (ms : List Meth) (hd : DistinctHandlers ms) (c : Option Code)
    (e : Entry) (h : pureLookup (plan cfg ms) (c, []) = .ok e) :
    ∀ id ∈ e.handlers, ∃ m ∈ ms, m.id = id ∧ applicableTo cfg.H [] m = true :=
  lookup_applicable cfg ms hd c [] e h

/-- (2) the forwarded positionals fit the selected method's range and every required keyword-only parameter
    was forwarded -/
theorem C01_bind_arity (d : FnDef) (x : Dispatch) (b : List (Nat × Option Arg)) (h : methodBind d x = some b) :
    x.passPos.length ≤ d.positional.length ∧
    (∀ p ∈ d.params, p.required = true → ∃ v, (p.name, some v) ∈ b) := by
  obtain ⟨hlen, rfl, hmiss⟩ := methodBind_some d x b h
  refine ⟨hlen, fun p hp hreq => ?_⟩
  have hp' := List.any_eq_false.mp hmiss p hp
  rw [hreq, Bool.true_and] at hp'
  split at hp'
  · rename_i n v hfind
    have hn : n = p.name := by simpa using List.find?_some hfind
    exact ⟨v, hn ▸ List.mem_of_find?_eq_some hfind⟩
  · exact absurd rfl hp'

theorem dispatch_go_sound (W : DWorld) (k : List Slot) (args : List (Slot × DVal)) (h : Nat) (hs : List DHandler)
    (hg : dispatch.go W k args hs = .handler h) : ∃ hd ∈ hs, hd.1 = h ∧ conj W args k hd = .yes := by
  fun_induction dispatch.go W k args hs with
  | case1 => cases hg
  | case2 a r hc => exact ⟨a, List.mem_cons_self, DRes.handler.inj hg, hc⟩
  | case3 a r hc ih =>
    obtain ⟨hd, hm, h1, h2⟩ := ih hg
    exact ⟨hd, List.mem_cons_of_mem _ hm, h1, h2⟩
  | case4 a r hc => cases hg

/-- (3) a dependent dispatcher that evaluates conditions (first-match or counting body) only selects a handler
    whose conjunction of generated conditions is true on the arguments -/
theorem C01_dependent_selected (W : DWorld) (k : List Slot) (hs : List DHandler) (args : List (Slot × DVal))
    (h : Nat) (hsel : dispatch W k hs args = .handler h)
    (hnk : ∀ s t, strategy W k hs ≠ .keyed s t) :
    ∃ hd ∈ hs, hd.1 = h ∧ conj W args k hd = .yes := by
  unfold dispatch at hsel
  cases hst : strategy W k hs with
  | keyed s t => exact absurd hst (hnk s t)
  | firstMatch =>
    rw [hst] at hsel
    exact dispatch_go_sound W k args h hs hsel
  | counting =>
    rw [hst] at hsel
    dsimp only at hsel
    split at hsel
    · cases hsel
    · split at hsel
      · cases hsel
      · rename_i p hp
        have hpm : p ∈ (hs.map (fun h => (h.1, conj W args k h))).filter (fun p => p.2 == .yes) := by
          rw [hp]; exact List.mem_cons_self
        obtain ⟨hmem, hyes⟩ := List.mem_filter.mp hpm
        obtain ⟨hd, hdm, rfl⟩ := List.mem_map.mp hmem
        exact ⟨hd, hdm, DRes.handler.inj hsel, eq_of_beq hyes⟩
      · cases hsel

/-- (3') with the lookup-table body the selected handler is the one recorded for the argument's value -/
theorem C01_dependent_keyed (W : DWorld) (k : List Slot) (hs : List DHandler) (args : List (Slot × DVal))
    (h : Nat) (s : Slot) (table : List (Nat × Nat)) (hst : strategy W k hs = .keyed s table)
    (hsel : dispatch W k hs args = .handler h) :
    ∃ v, argAt args s = some v ∧ (v.eq, h) ∈ table := by
  unfold dispatch at hsel
  rw [hst] at hsel
  dsimp only at hsel
  split at hsel
  · cases hsel
  · rename_i v hv
    split at hsel
    · cases hsel
    · split at hsel
      · rename_i e he
        have hmem := List.mem_of_find?_eq_some he
        have hk : e.1 = v.eq := by simpa using List.find?_some he
        have h2 : e.2 = h := DRes.handler.inj hsel
        refine ⟨v, hv, ?_⟩
        rw [← hk, ← h2]
        exact hmem
      · cases hsel

end Ovld

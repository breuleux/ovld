import Ovldverif.Lemmas.DepCheck
/-!
# C11 — `tuple[...]` element types and `|` / `&` combinations: generated code agrees with `isinstance`
-/
set_option autoImplicit false
namespace Ovld

/-- exactly which values inside the bound the generated check of `tuple[...]` gets right -/
theorem C11_prod_iff (W : DWorld) (ps : List Ty) (b : Ty) (v : DVal) (hb : isinstanceOf W b v = .yes) :
    genCheck W (.prod ps b) v = isinstanceOf W (.prod ps b) v ↔
      (v.kind = .seq ∨ (v.kind = .sized ∧ v.elems.length ≠ ps.length)) := by
  rw [genCheck_prod, isinstanceOf_prod, hb]
  cases hk : v.kind
  · simp [Tri.andThen]
  · simp [Tri.andThen]
  · by_cases hl : v.elems.length = ps.length <;> cases ps <;> simp [Tri.andThen, hl]

theorem C11_prod (W : DWorld) (ps : List Ty) (b : Ty) (v : DVal)
    (hb : isinstanceOf W b v = .yes) (hseq : v.kind = .seq) :
    genCheck W (.prod ps b) v = isinstanceOf W (.prod ps b) v :=
  (C11_prod_iff W ps b v hb).mpr (.inl hseq)

/-- for every `Guardable` type, nested to any depth, the code emitted for it as a member of a Union / Intersection is
    exactly `isinstance`: same answer, same exceptions, same short-circuit.

    `htop` (every class is a subclass of `object`): no guard is emitted for the bound `object`. -/
theorem C11_guardable (W : DWorld) (v : DVal) (htop : W.H.sub v.cls 0 = true) (t : Ty)
    (g : Guardable W v t) :
    memberCheck W (t.size + 1) t v = isinstanceOf W t v :=
  memberCheck_guardable W v htop t g _ (Nat.lt_succ_self _)

/-- the fuel of `memberCheck` is immaterial once it exceeds the size of the type: `memberCheck_guardable` itself -/
theorem C11_guardable_fuel (W : DWorld) (v : DVal) (htop : W.H.sub v.cls 0 = true) (t : Ty)
    (g : Guardable W v t) (f : Nat) (hf : t.size < f) :
    memberCheck W f t v = isinstanceOf W t v :=
  memberCheck_guardable W v htop t g f hf

/-- `ms ≠ []`: the code of an empty Union is the empty string; the model evaluates the empty expression to
    `yes` while `isinstance(v, Union[()])` is `no` (see the example below) -/
theorem C11_union_guardable (W : DWorld) (v : DVal) (htop : W.H.sub v.cls 0 = true) (ms : List Ty)
    (hne : ms ≠ []) (hm : ∀ m ∈ ms, Guardable W v m) :
    genCheck W (.union ms) v = isinstanceOf W (.union ms) v := by
  cases ms with
  | nil => exact absurd rfl hne
  | cons m ms =>
    rw [genCheck_union, isinstanceOf_union,
      List.map_congr_left fun m' hm' => C11_guardable W v htop m' (hm m' hm')]

theorem C11_inter_guardable (W : DWorld) (v : DVal) (htop : W.H.sub v.cls 0 = true) (ms : List Ty)
    (hm : ∀ m ∈ ms, Guardable W v m) :
    genCheck W (.inter ms) v = isinstanceOf W (.inter ms) v := by
  rw [genCheck_inter, isinstanceOf_inter, List.map_congr_left fun m' hm' => C11_guardable W v htop m' (hm m' hm')]

/-- the generated *top-level* check of any guardable type, for a value inside the type's bound (the bound of
    a top-level value-dependent type is tested by the type-level stage of dispatch, not by the generated code) -/
theorem C11_genCheck_guardable (W : DWorld) (v : DVal) (htop : W.H.sub v.cls 0 = true) (t : Ty)
    (g : Guardable W v t) (hne : t ≠ .union [])
    (hb : ∀ b, t.bound? = some b → isinstanceOf W b v = .yes) :
    genCheck W t v = isinstanceOf W t v := by
  cases g with
  | lit keys b gb hnd => exact genCheck_bounded W v rfl (hb b rfl) (fun _ => nofun)
  | fdep fn ps b gb hnd => exact genCheck_bounded W v rfl (hb b rfl) (fun _ => nofun)
  | prod ps b gb hnd hq => exact genCheck_bounded W v rfl (hb b rfl) (fun _ _ => hq (hb b rfl))
  | union ms gm => exact C11_union_guardable W v htop ms (fun e => hne (by rw [e])) gm
  | inter ms gm => exact C11_inter_guardable W v htop ms gm
  | _ => exact genCheck_single W _ (.inst _) v rfl

def ClassBounded (t : Ty) : Prop :=
  (∃ c, t = .cls c) ∨ (∃ keys c, t = .lit keys (.cls c)) ∨ (∃ fn ps c, t = .fdep fn ps (.cls c))

theorem ClassBounded.guardable (W : DWorld) (v : DVal) {t : Ty} (h : ClassBounded t) : Guardable W v t := by
  rcases h with ⟨c, rfl⟩ | ⟨keys, c, rfl⟩ | ⟨fn, ps, c, rfl⟩
  · exact .cls c
  · exact .lit keys _ (.cls c) rfl
  · exact .fdep fn ps _ (.cls c) rfl

theorem C11_union (W : DWorld) (v : DVal) (htop : W.H.sub v.cls 0 = true) (ms : List Ty)
    (hne : ms ≠ []) (hm : ∀ m ∈ ms, ClassBounded m) :
    genCheck W (.union ms) v = isinstanceOf W (.union ms) v :=
  C11_union_guardable W v htop ms hne (fun m h => (hm m h).guardable W v)

theorem C11_inter (W : DWorld) (v : DVal) (htop : W.H.sub v.cls 0 = true) (ms : List Ty)
    (hm : ∀ m ∈ ms, ClassBounded m) :
    genCheck W (.inter ms) v = isinstanceOf W (.inter ms) v :=
  C11_inter_guardable W v htop ms (fun m h => (hm m h).guardable W v)

/-- one level of nesting: a union of class-bounded members and intersections of such -/
theorem C11_nested_union (W : DWorld) (v : DVal) (htop : W.H.sub v.cls 0 = true) (ms : List Ty)
    (hne : ms ≠ [])
    (hm : ∀ m ∈ ms, ClassBounded m ∨ ∃ ns, m = .inter ns ∧ ∀ n ∈ ns, ClassBounded n) :
    genCheck W (.union ms) v = isinstanceOf W (.union ms) v := by
  apply C11_union_guardable W v htop ms hne
  intro m h
  rcases hm m h with hc | ⟨ns, rfl, hn⟩
  · exact hc.guardable W v
  · exact .inter ns (fun n h' => (hn n h').guardable W v)

/-- one level of nesting: an intersection of class-bounded members and unions of such -/
theorem C11_nested_inter (W : DWorld) (v : DVal) (htop : W.H.sub v.cls 0 = true) (ms : List Ty)
    (hm : ∀ m ∈ ms, ClassBounded m ∨ ∃ ns, m = .union ns ∧ ∀ n ∈ ns, ClassBounded n) :
    genCheck W (.inter ms) v = isinstanceOf W (.inter ms) v := by
  apply C11_inter_guardable W v htop ms
  intro m h
  rcases hm m h with hc | ⟨ns, rfl, hn⟩
  · exact hc.guardable W v
  · exact .union ns (fun n h' => (hn n h').guardable W v)

/-! ## the hypotheses are satisfiable; the excluded corners are real -/

/-- classes `0` (`object`), `1`, `2`, `5` (`tuple`), every class below `object`; user condition `3` holds for
    the value of identity `1` only, condition `4` raises -/
def exW : DWorld :=
  { H := { sub := fun a b => a == b || b == 0, hasAttr := fun _ _ => false, pred := fun _ _ => false },
    metaOf := fun _ => 0,
    chk := fun fn _ vid => if fn == 4 then .raises else if vid == 1 then .yes else .no }

/-- the tuple `(x, y)`: `x` of class 1 and equality class 7, `y` of class 2 -/
def exTuple : DVal := .mk 1 5 70 .seq [.mk 2 1 7 .plain [], .mk 3 2 8 .plain []]
/-- a sized non-sequence (a `set`, a `dict`) -/
def exSized : DVal := .mk 4 5 71 .sized []
def exPlain : DVal := .mk 5 1 7 .plain []

-- C11_prod: hypotheses hold, both sides answer `yes`; an element test that fails / a wrong length: `no`
example : isinstanceOf exW (.cls 5) exTuple = .yes ∧ exTuple.kind = .seq ∧
    genCheck exW (.prod [.lit [7] (.cls 1), .cls 2] (.cls 5)) exTuple = .yes ∧
    isinstanceOf exW (.prod [.lit [7] (.cls 1), .cls 2] (.cls 5)) exTuple = .yes ∧
    genCheck exW (.prod [.cls 2, .cls 2] (.cls 5)) exTuple = .no ∧
    genCheck exW (.prod [.cls 1] (.cls 5)) exTuple = .no := by decide +kernel

-- an element test that raises (condition 4) propagates on both sides, after the tests to its left
example : genCheck exW (.prod [.cls 1, .fdep 4 [] (.cls 2)] (.cls 5)) exTuple = .raises ∧
    isinstanceOf exW (.prod [.cls 1, .fdep 4 [] (.cls 2)] (.cls 5)) exTuple = .raises ∧
    genCheck exW (.prod [.cls 2, .fdep 4 [] (.cls 2)] (.cls 5)) exTuple = .no := by decide +kernel

-- C11_prod needs `v.kind = .seq`: a sized non-sequence of the right length inside the bound
example : isinstanceOf exW (.cls 5) exSized = .yes ∧
    genCheck exW (.prod [] (.cls 5)) exSized = .yes ∧ isinstanceOf exW (.prod [] (.cls 5)) exSized = .no := by
  decide +kernel

-- ... and a value without `len()` inside the bound `object`
example : isinstanceOf exW (.cls 0) exPlain = .yes ∧
    genCheck exW (.prod [.cls 1] (.cls 0)) exPlain = .raises ∧
    isinstanceOf exW (.prod [.cls 1] (.cls 0)) exPlain = .no := by decide +kernel

-- C11_prod needs the bound: outside it the top-level code still looks at the elements
example : isinstanceOf exW (.cls 1) exTuple = .no ∧
    genCheck exW (.prod [.cls 1, .cls 2] (.cls 1)) exTuple = .yes ∧
    isinstanceOf exW (.prod [.cls 1, .cls 2] (.cls 1)) exTuple = .no := by decide +kernel

-- `htop` holds in `exW`
example : exW.H.sub exPlain.cls 0 = true ∧ exW.H.sub exTuple.cls 0 = true := by decide

-- a guardable type with two levels of nesting and a guarded `tuple[...]` member
example : Guardable exW exPlain
    (.union [.cls 2, .inter [.lit [7] (.cls 1), .union [.fdep 3 [] (.cls 2), .fdep 4 [] (.cls 1)]],
             .prod [.cls 1] (.cls 5)]) := by
  simp only [Guardable.union_iff, Guardable.inter_iff, List.forall_mem_cons, List.not_mem_nil, false_imp_iff,
    implies_true, and_true]
  exact ⟨.cls 2, ⟨.lit _ _ (.cls 1) rfl, .fdep _ _ _ (.cls 2) rfl, .fdep _ _ _ (.cls 1) rfl⟩,
    .prod _ _ (.cls 5) rfl (by decide)⟩

-- ... on which the member code and `isinstance` both raise (condition 4 is reached inside its bound)
example : genCheck exW
    (.union [.cls 2, .inter [.lit [7] (.cls 1), .union [.fdep 3 [] (.cls 2), .fdep 4 [] (.cls 1)]],
             .prod [.cls 1] (.cls 5)]) exPlain = .raises := by decide +kernel

-- `ClassBounded` members
example : ∀ m ∈ [Ty.cls 2, .lit [7] (.cls 1), .fdep 3 [] (.cls 0)], ClassBounded m := by
  simp only [List.forall_mem_cons, List.not_mem_nil, false_imp_iff, implies_true, and_true]
  exact ⟨Or.inl ⟨_, rfl⟩, Or.inr (Or.inl ⟨_, _, rfl⟩), Or.inr (Or.inr ⟨_, _, _, rfl⟩)⟩

-- C11_union needs `ms ≠ []`
example : genCheck exW (.union []) exPlain = .yes ∧ isinstanceOf exW (.union []) exPlain = .no := by decide

-- `Guardable` needs a bound that is not value-dependent itself: the code of the bound is emitted without the
-- bound's own guard (`Literal[7]` of class 2 as the bound; the value is `7` of class 1)
example : memberCheck exW ((Ty.lit [7] (.lit [7] (.cls 2))).size + 1) (.lit [7] (.lit [7] (.cls 2))) exPlain = .yes ∧
    isinstanceOf exW (.lit [7] (.lit [7] (.cls 2))) exPlain = .no := by decide +kernel

-- `Guardable` excludes parameterized generics: `isinstance(v, list[int])` raises, the member code does not
example : memberCheck exW ((Ty.gen 1 [.cls 2]).size + 1) (.gen 1 [.cls 2]) exPlain ≠ .raises ∧
    isinstanceOf exW (.gen 1 [.cls 2]) exPlain = .raises := by decide +kernel

-- a guarded `tuple[...]` member needs a bound that accepts sequences only
example : isinstanceOf exW (.cls 5) exSized = .yes ∧ exSized.kind ≠ .seq ∧
    memberCheck exW ((Ty.prod [] (.cls 5)).size + 1) (.prod [] (.cls 5)) exSized = .yes ∧
    isinstanceOf exW (.prod [] (.cls 5)) exSized = .no := by decide +kernel

end Ovld

import Ovldverif.Model.Normalize
import Ovldverif.Props.C13Generic
/-!
# C14 — types passed as arguments dispatch on `type[...]` by subtype

A type-valued argument `t` is keyed as `type[t]` (`subtlerType`); a method annotated `type[T]` is then applicable
exactly when `subclasscheck (type[t]) (type[T])`, which the theorems reduce to the subtype relation on `t` and `T`:
`issubclass` for classes, same-or-subclass origin with argument-wise subtyping for parametrised generics.
`cT` is the class id of `type`.
-/
set_option autoImplicit false
namespace Ovld.Norm
open Ovld

/-- a passed type `t` matches `type[T]` exactly when `t` is a subtype of `T` (any nesting) -/
theorem C14_type_arg (H : Hier) (cT : Nat) (hT : H.sub cT cT = true) (t1 t2 : Ty) :
    subclasscheck H (.gen cT [t1]) (.gen cT [t2]) = subclasscheck H t1 t2 := by
  by_cases e : t1 = t2
  · rw [e, C13_refl, C13_refl]
  · rw [C13_generic_covariant H _ _ _ _ fun h => e (List.cons.inj (Ty.gen.inj h).2).1, hT]
    exact Bool.and_true _

/-- classes: a subclass -/
theorem C14_class_arg (H : Hier) (a b : Nat) (hrefl : H.sub a a = true) :
    subclasscheck H (.cls a) (.cls b) = H.sub a b := by
  rw [subclasscheck_cls_cls]
  cases h : a == b
  · rfl
  · rw [← eq_of_beq h, hrefl]; rfl

/-- parametrised generics: same-or-subclass origin, argument-wise subtyping -/
theorem C14_generic_arg (H : Hier) (o1 o2 : Nat) (as bs : List Ty) :
    subclasscheck H (.gen o1 as) (.gen o2 bs) =
      (Ty.beq (.gen o1 as) (.gen o2 bs) ||
        (H.sub o1 o2 && as.length == bs.length && (zipWithT (subclasscheck H) as bs).all id)) :=
  subclasscheck_gen_gen o1 o2 as bs

/-- bare `type` is `type[object]`, and so is `type[Any]` -/
theorem C14_bare_type (env : Env) (f : Nat) :
    normalize env (f + 1) .bareType = .ok (.rawType (.cls 0)) ∧
    normalize env (f + 1) (.typeOf .any) = .ok (.rawType (.cls 0)) :=
  ⟨rfl, rfl⟩

/-- `typing.Any` passed as a value counts as `object` -/
theorem C14_any_value (cT : Nat) : subtlerType cT .anyVal = subtlerType cT (.typeVal (.cls 0)) := rfl

/-- ordinary (non-type) arguments keep their class as key -/
theorem C14_ordinary_args (cT c : Nat) : subtlerType cT (.inst c) = .cls c := rfl

/-- a more specific `type[...]` annotation is preferred over a more general one … -/
theorem C14_prefers_specific (H : Hier) (cT : Nat) (t1 t2 : Ty) :
    typeorder H (.gen cT [t1]) (.gen cT [t2]) = typeorder H t1 t2 := by
  by_cases e : t1 = t2
  · rw [e, C12_refl, C12_refl]
  · rw [C12_generic_argwise H cT [t1] [t2] nofun rfl fun h => e (List.cons.inj h).1]
    exact TOrd.merge_singleton _

/-- … and over plain `object` -/
theorem C14_over_object (H : Hier) (cT : Nat) (h1 : H.sub cT 0 = true) (h2 : H.sub 0 cT = false) (hne : cT ≠ 0)
    (t : Ty) : typeorder H (.gen cT [t]) (.cls 0) = .less := by
  rw [typeorder_gen_left rfl rfl, C12_cls, if_neg hne, h1, h2]; rfl

end Ovld.Norm

import Ovldverif.Lemmas.RewriteEqns
import Ovldverif.Lemmas.ListFacts
/-!
# C09 — source rewriting changes nothing except the recurse / call_next call sites (expressions of Model/Rewrite.lean)

The reference semantics of an un-rewritten `recurse(...)` / `call_next(...)` is the idealised dispatcher of
Model/Rewrite.lean (the key is read off the call as it is spelled), not the generated entry point of C03.
-/
set_option autoImplicit false
namespace Ovld.Rw

def Agree (ρ ρ₂ : Env) : Prop := ∀ s, ρ₂ (.user s) = ρ (.user s)
def Frame (k k' : Nat) (ρ₂ ρ₂' : Env) : Prop := ∀ j s, (j < k ∨ j ≥ k') → ρ₂' (.tmp j s) = ρ₂ (.tmp j s)

theorem Frame.refl (k k' : Nat) (ρ : Env) : Frame k k' ρ ρ := fun _ _ _ => rfl
/-- the second piece may start anywhere from `k` on (a `while` of Props/C09Stmt starts again at `k`) -/
theorem Frame.comp {k k1 a k2 : Nat} {ρ0 ρ1 ρ2 : Env} (h1 : Frame k k1 ρ0 ρ1) (h2 : Frame a k2 ρ1 ρ2)
    (hka : k ≤ a) (h12 : k1 ≤ k2) : Frame k k2 ρ0 ρ2 := by
  intro j s hj
  rw [h2 j s (by omega), h1 j s (by omega)]
theorem Frame.widen {a b a' b' : Nat} {ρ0 ρ1 : Env} (h : Frame a b ρ0 ρ1) (ha : a' ≤ a) (hb : b ≤ b') : Frame a' b' ρ0 ρ1 :=
  fun j s hj => h j s (by omega)
theorem Frame.ofSetUser {a b : Nat} {ρ0 ρ1 : Env} {x : String} {v : Val} (h : Frame a b (setVar ρ0 (.user x) v) ρ1) :
    Frame a b ρ0 ρ1 :=
  fun j s hj => (h j s hj).trans (setVar_ne (x := .user x) (y := .tmp j s) Name.noConfusion ρ0 v)

theorem Agree.setUser {ρ ρ₂ : Env} (h : Agree ρ ρ₂) (x : String) (v : Val) :
    Agree (setVar ρ (.user x) v) (setVar ρ₂ (.user x) v) :=
  fun s => congrArg (fun r => if Name.user s = Name.user x then some v else r) (h s)

/-- the simulation relation between a run of the original and of the rewritten expression -/
structure Sim {α : Type} (k k' : Nat) (ρ₂ : Env) (o o₂ : Except Exn α × Env × Log) : Prop where
  res : o₂.1 = o.1
  log : o₂.2.2 = o.2.2
  agree : Agree o.2.1 o₂.2.1
  frame : Frame k k' ρ₂ o₂.2.1

/-- the globals: `recurse` / `call_next` are what the reference side calls; `MAP`, `type`, `CODE` are what `recode`
    installs for the rewritten side (mangled in the real code: `map_mangled`, `__TYPE`, `code_mangled`) -/
structure WOK (W : World) : Prop where
  recurse : W.globals "recurse" = some (.g .dispatchObj)
  map : W.globals "MAP" = some (.g .mapObj)
  typ : W.globals "type" = some (.g .typeFn)
  callNext : W.globals "call_next" = some (.g .nextObj)
  code : W.globals "CODE" = some (.g (.codeObj W.code))

theorem Sim.seq_err {β : Type} {k k1 k2 : Nat} {ρ₂ ρ ρ' : Env} {l : Log} {ex : Exn}
    (hf : Frame k k1 ρ₂ ρ') (hag : Agree ρ ρ') (h12 : k1 ≤ k2) :
    Sim (α := β) k k2 ρ₂ (.error ex, ρ, l) (.error ex, ρ', l) :=
  ⟨rfl, rfl, hag, hf.widen (Nat.le_refl _) h12⟩

section
variable {α : Type} {k k' : Nat} {ρ₂ : Env} {o o₂ : Except Exn α × Env × Log}

theorem Sim.exists_env (h : Sim k k' ρ₂ o o₂) : ∃ ρ₂', o₂ = (o.1, ρ₂', o.2.2) ∧ Agree o.2.1 ρ₂' ∧ Frame k k' ρ₂ ρ₂' := by
  obtain ⟨r2, ρ₂', l2⟩ := o₂
  exact ⟨ρ₂', by rw [← h.res, ← h.log], h.agree, h.frame⟩

theorem Sim.ret {ρ : Env} (r : Except Exn α) (l : Log) (ha : Agree ρ ρ₂) : Sim k k' ρ₂ (r, ρ, l) (r, ρ₂, l) :=
  ⟨rfl, rfl, ha, Frame.refl _ _ _⟩

theorem Sim.widen {a b : Nat} (h : Sim k k' ρ₂ o o₂) (ha : a ≤ k) (hb : k' ≤ b) : Sim a b ρ₂ o o₂ :=
  ⟨h.res, h.log, h.agree, h.frame.widen ha hb⟩

/-- a simulated step that consumes `[k, k')`, then a continuation that is simulated from every pair of agreeing
    environments and consumes `[k', k2)` -/
theorem Sim.bind {β : Type} {k2 : Nat} {K K₂ : α → Env → Log → Except Exn β × Env × Log} (h : Sim k k' ρ₂ o o₂)
    (hk : k ≤ k') (h12 : k' ≤ k2) (hK : ∀ v ρ' ρ₂' l', Agree ρ' ρ₂' → Sim k' k2 ρ₂' (K v ρ' l') (K₂ v ρ₂' l')) :
    Sim k k2 ρ₂ (bindR o K) (bindR o₂ K₂) := by
  obtain ⟨ρ₂', rfl, hag, hf⟩ := h.exists_env
  obtain ⟨_ | v, ρ', l'⟩ := o
  · exact Sim.seq_err hf hag h12
  · have h := hK v ρ' ρ₂' l' hag
    exact ⟨h.res, h.log, h.agree, hf.comp h.frame hk h12⟩
end

/-- the first conjunct is `rw_le` -/
def PExpr (W : World) (e : Expr) : Prop :=
  ∀ (k : Nat) (ρ ρ₂ : Env) (l : Log), userOnly e = true → Agree ρ ρ₂ →
    k ≤ (rw e k).2 ∧ Sim k (rw e k).2 ρ₂ (eval W e ρ l) (eval W (rw e k).1 ρ₂ l)

theorem pList_of (W : World) (es : List Expr) : (∀ e ∈ es, PExpr W e) →
    ∀ (k : Nat) (ρ ρ₂ : Env) (l : Log), userOnlyL es = true → Agree ρ ρ₂ →
      Sim k (rwList es k).2 ρ₂ (evalList W es ρ l) (evalList W (rwList es k).1 ρ₂ l) := by
  induction es with
  | nil => exact fun _ _ _ _ _ _ ha => .ret _ _ ha
  | cons e es ih =>
    intro h k ρ ρ₂ l hu ha
    have hu := Bool.and_eq_true_iff.1 hu
    simp only [rwList_cons, evalList_cons]
    exact (h e (List.mem_cons_self ..) k ρ ρ₂ l hu.1 ha).2.bind (rw_le e k) (rwList_le es _) fun v ρ' ρ₂' l' hag =>
      (ih (fun x hx => h x (List.mem_cons_of_mem _ hx)) _ ρ' ρ₂' l' hu.2 hag).bind (rwList_le es _) (Nat.le_refl _)
        fun _ _ _ _ h => .ret _ _ h

theorem pKws_of (W : World) (kws : List (String × Expr)) : (∀ p ∈ kws, PExpr W p.2) →
    ∀ (k : Nat) (ρ ρ₂ : Env) (l : Log), userOnlyK kws = true → Agree ρ ρ₂ →
      Sim k (rwKwList kws k).2 ρ₂ (evalKws W kws ρ l) (evalKws W (rwKwList kws k).1 ρ₂ l) := by
  induction kws with
  | nil => exact fun _ _ _ _ _ _ ha => .ret _ _ ha
  | cons p kws ih =>
    obtain ⟨n, e⟩ := p
    intro h k ρ ρ₂ l hu ha
    have hu := Bool.and_eq_true_iff.1 hu
    simp only [rwKwList_cons, evalKws_cons]
    exact (h (n, e) (List.mem_cons_self ..) k ρ ρ₂ l hu.1 ha).2.bind (rw_le e k) (rwKwList_le kws _) fun v ρ' ρ₂' l' hag =>
      (ih (fun x hx => h x (List.mem_cons_of_mem _ hx)) _ ρ' ρ₂' l' hu.2 hag).bind (rwKwList_le kws _) (Nat.le_refl _)
        fun _ _ _ _ h => .ret _ _ h

/-- evaluation of `type(__TMP := a')` -/
theorem eval_typeCall (W : World) (ok : WOK W) (x : Name) (a : Expr) (ρ : Env) (l : Log) :
    eval W (typeCall x a) ρ l = bindR (eval W a ρ l) fun v ρ' l' => (.ok (.ty (W.classOf v)), setVar ρ' x v, l') := by
  simp only [typeCall, eval_call, eval_glob_some W ok.typ, evalList_cons, eval_named, bindR_ok, bindR_bindR]
  rcases eval W a ρ l with ⟨_ | _, _, _⟩ <;> rfl

/-- evaluation of `('name', type(__TMP := a'))` -/
theorem eval_pairTypeCall (W : World) (ok : WOK W) (nm : String) (x : Name) (a : Expr) (ρ : Env) (l : Log) :
    eval W (.pair nm (typeCall x a)) ρ l =
      bindR (eval W a ρ l) fun v ρ' l' => (.ok (.kwTy nm (W.classOf v)), setVar ρ' x v, l') := by
  rw [eval_pair, eval_typeCall W ok]
  rcases eval W a ρ l with ⟨_ | _, _, _⟩ <;> rfl

/-- one key part `p`: it evaluates `a'` and binds the value to `__TMPk_s`; `ρ₂` is changed inside `[k, c1)` only, and at
    prefix `k` only at `s` -/
theorem sim_keyPart {W : World} {p a' : Expr} {f : Val → Val} {k c c1 : Nat} {s : Slot} {ρ₂ : Env} {l : Log}
    {o : Except Exn Val × Env × Log}
    (hp : eval W p ρ₂ l = bindR (eval W a' ρ₂ l) fun v ρ' l' => (.ok (f v), setVar ρ' (.tmp k s) v, l'))
    (h : Sim c c1 ρ₂ o (eval W a' ρ₂ l)) (hkc : k < c) (hcc : c ≤ c1) :
    ∃ ρ2', eval W p ρ₂ l = (o.1.map f, ρ2', o.2.2) ∧ Agree o.2.1 ρ2' ∧ Frame k c1 ρ₂ ρ2' ∧
      (∀ t, t ≠ s → ρ2' (.tmp k t) = ρ₂ (.tmp k t)) ∧ ∀ v, o.1 = .ok v → ρ2' (.tmp k s) = some v := by
  obtain ⟨ρ2', h2, hag, hf⟩ := h.exists_env
  rw [hp, h2]
  obtain ⟨ex | v, ρ', l'⟩ := o
  · exact ⟨ρ2', rfl, hag, hf.widen (Nat.le_of_lt hkc) (Nat.le_refl _), fun t _ => hf k t (.inl hkc), nofun⟩
  · exact ⟨_, rfl, fun x => (setVar_ne Name.noConfusion ρ2' v).trans (hag x),
      fun j t hj => (setVar_ne (fun e => by injection e; omega) ρ2' v).trans (hf j t (by omega)),
      fun t ht => (setVar_ne (fun e => ht (Name.tmp.inj e).2) ρ2' v).trans (hf k t (.inl hkc)),
      fun _ e => Except.ok.inj e ▸ setVar_same ..⟩

/-- what evaluating the key parts `type(__TMPk_i := aᵢ')` achieves, relative to evaluating the original arguments.
    Prefix `k` is written by this call's key parts only (its arguments are rewritten from `c > k` on), so nested call
    sites neither clobber nor read it.  The positional temporaries have to survive the keyword parts: their contents are
    stated here and read back in `sim_call`.  (First conjunct: `rwArgs_le`; third of each branch: a `Frame`.) -/
def PArgs (W : World) (as : List Expr) : Prop :=
  ∀ (k i c : Nat) (ρ ρ₂ : Env) (l : Log), userOnlyL as = true → Agree ρ ρ₂ → k < c →
    c ≤ (rwArgs as k i c).2 ∧
    (match evalList W as ρ l with
     | (.ok avs, ρ', l') =>
        ∃ ρ₂', evalList W (rwArgs as k i c).1 ρ₂ l = (.ok (avs.map (fun v => Val.ty (W.classOf v))), ρ₂', l')
          ∧ Agree ρ' ρ₂'
          ∧ (∀ j s, (j < k ∨ j ≥ (rwArgs as k i c).2) → ρ₂' (.tmp j s) = ρ₂ (.tmp j s))
          ∧ (∀ s, (∀ m, m < avs.length → s ≠ Slot.pos (i + m)) → ρ₂' (.tmp k s) = ρ₂ (.tmp k s))
          ∧ (∀ m (h : m < avs.length), ρ₂' (.tmp k (.pos (i + m))) = some avs[m])
          ∧ avs.length = as.length
     | (.error e, ρ', l') =>
        ∃ ρ₂', evalList W (rwArgs as k i c).1 ρ₂ l = (.error e, ρ₂', l') ∧ Agree ρ' ρ₂'
          ∧ (∀ j s, (j < k ∨ j ≥ (rwArgs as k i c).2) → ρ₂' (.tmp j s) = ρ₂ (.tmp j s)))

theorem pArgs_of (W : World) (ok : WOK W) : ∀ (as : List Expr), (∀ e ∈ as, PExpr W e) → PArgs W as := by
  intro as
  induction as with
  | nil =>
    intro _ k i c ρ ρ₂ l _ ha _
    exact ⟨Nat.le_refl _, ρ₂, rfl, ha, Frame.refl _ _ _, fun _ _ => rfl, fun _ h => absurd h (Nat.not_lt_zero _), rfl⟩
  | cons a as ih =>
    intro h k i c ρ ρ₂ l hu ha hkc
    have hu := Bool.and_eq_true_iff.1 hu
    have hk := rw_le a c
    have hc2 := rwArgs_le as k (i + 1) (rw a c).2
    obtain ⟨ρ2', h2, hag, hf0, hoth0, hv⟩ :=
      sim_keyPart (eval_typeCall W ok (.tmp k (.pos i)) _ ρ₂ l) (h a (List.mem_cons_self ..) c ρ ρ₂ l hu.1 ha).2 hkc hk
    simp only [rwArgs_cons, evalList_cons, h2]
    refine ⟨Nat.le_trans hk hc2, ?_⟩
    generalize eval W a ρ l = o at hag hv ⊢
    obtain ⟨ex | v, ρ', l'⟩ := o
    · exact ⟨ρ2', rfl, hag, hf0.widen (Nat.le_refl _) hc2⟩
    · have hm := (ih (fun x hx => h x (List.mem_cons_of_mem _ hx)) k (i + 1) (rw a c).2 ρ' ρ2' l' hu.2 hag
        (Nat.lt_of_lt_of_le hkc hk)).2
      simp only [Except.map, bindR_ok] at hm ⊢
      generalize evalList W as ρ' l' = p at hm ⊢
      obtain ⟨ex | vs, ρq, lq⟩ := p
      · obtain ⟨ρ₂', hev, hag2, hfr⟩ := hm
        exact ⟨ρ₂', by rw [hev]; rfl, hag2, hf0.comp hfr (Nat.le_refl _) hc2⟩
      · obtain ⟨ρ₂', hev, hag2, hfr, hother, hslots, hlen⟩ := hm
        refine ⟨ρ₂', by rw [hev]; rfl, hag2, hf0.comp hfr (Nat.le_refl _) hc2, fun s hs => ?_, fun m hm => ?_,
          congrArg (· + 1) hlen⟩
        · rw [hother s fun m hm e => hs (m + 1) (Nat.succ_lt_succ hm) (by rw [e, Nat.add_right_comm]; rfl),
            hoth0 s (hs 0 (Nat.succ_pos _))]
        · cases m with
          | zero => rw [show i + 0 = i from rfl, hother _ fun m _ e => by injection e; omega]; exact hv v rfl
          | succ m => rw [show i + (m + 1) = i + 1 + m by omega]; exact hslots m (Nat.lt_of_succ_lt_succ hm)

/-- the read-back `__TMPk_i, …` of the positional temporaries -/
theorem evalList_tmpVars (W : World) (k : Nat) (ρ : Env) (l : Log) :
    ∀ (as : List Expr) (avs : List Val) (i : Nat), avs.length = as.length →
      (∀ m (h : m < avs.length), ρ (.tmp k (.pos (i + m))) = some avs[m]) →
      evalList W (tmpVars k i as) ρ l = (.ok avs, ρ, l)
  | [], [], _, _, _ => rfl
  | [], _ :: _, _, h, _ => nomatch h
  | _ :: _, [], _, h, _ => nomatch h
  | a :: as, v :: vs, i, hlen, hs => by
    have ih := evalList_tmpVars W k ρ l as vs (i + 1) (Nat.succ.inj hlen) fun m hm => by
      rw [show i + 1 + m = i + (m + 1) by omega]; exact hs (m + 1) (Nat.succ_lt_succ hm)
    show evalList W (.var (.tmp k (.pos i)) :: tmpVars k (i + 1) as) ρ l = _
    simp only [evalList_cons, eval_var, show ρ (.tmp k (.pos i)) = some v from hs 0 (Nat.succ_pos _), ih, bindR_ok]

/-- the same for the key parts `('n', type(__TMPk_n := e'))`, with the read-back `n=__TMPk_n` itself.
    `distinctNames`: a repeated keyword would overwrite `__TMPk_n` before the read-back. -/
def PKwArgs (W : World) (kws : List (String × Expr)) : Prop :=
  ∀ (k c : Nat) (ρ ρ₂ : Env) (l : Log), userOnlyK kws = true → distinctNames (kws.map Prod.fst) = true → Agree ρ ρ₂ → k < c →
    (match evalKws W kws ρ l with
     | (.ok kvs, ρ', l') =>
        ∃ ρ₂', evalList W (rwKws kws k c).1 ρ₂ l = (.ok (kvs.map (fun p => Val.kwTy p.1 (W.classOf p.2))), ρ₂', l')
          ∧ Agree ρ' ρ₂'
          ∧ Frame k (rwKws kws k c).2 ρ₂ ρ₂'
          ∧ (∀ s, (∀ n, n ∈ kws.map Prod.fst → s ≠ Slot.kw n) → ρ₂' (.tmp k s) = ρ₂ (.tmp k s))
          ∧ (∀ l'', evalKws W (tmpKws k kws) ρ₂' l'' = (.ok kvs, ρ₂', l''))
     | (.error e, ρ', l') =>
        ∃ ρ₂', evalList W (rwKws kws k c).1 ρ₂ l = (.error e, ρ₂', l') ∧ Agree ρ' ρ₂'
          ∧ Frame k (rwKws kws k c).2 ρ₂ ρ₂')

theorem pKwArgs_of (W : World) (ok : WOK W) (kws : List (String × Expr)) : (∀ p ∈ kws, PExpr W p.2) → PKwArgs W kws := by
  induction kws with
  | nil =>
    intro _ k c ρ ρ₂ l _ _ ha _
    exact ⟨ρ₂, rfl, ha, .refl _ _ _, fun _ _ => rfl, fun _ => rfl⟩
  | cons p kws ih =>
    obtain ⟨nm, a⟩ := p
    intro h k c ρ ρ₂ l hu hd ha hkc
    have hu := Bool.and_eq_true_iff.1 hu
    simp only [List.map_cons, distinctNames, Bool.and_eq_true, Bool.not_eq_true', List.contains_eq_mem,
      decide_eq_false_iff_not] at hd
    have hk := rw_le a c
    have hc2 := rwKws_le kws k (rw a c).2
    obtain ⟨ρ2', h2, hag, hf0, hoth0, hv⟩ :=
      sim_keyPart (eval_pairTypeCall W ok nm (.tmp k (.kw nm)) _ ρ₂ l) (h (nm, a) (List.mem_cons_self ..) c ρ ρ₂ l hu.1 ha).2
        hkc hk
    simp only [rwKws_cons, evalKws_cons, evalList_cons, h2]
    generalize eval W a ρ l = o at hag hv ⊢
    obtain ⟨ex | v, ρ', l'⟩ := o
    · exact ⟨ρ2', rfl, hag, hf0.widen (Nat.le_refl _) hc2⟩
    · have hm := ih (fun x hx => h x (List.mem_cons_of_mem _ hx)) k (rw a c).2 ρ' ρ2' l' hu.2 hd.2 hag
        (Nat.lt_of_lt_of_le hkc hk)
      simp only [Except.map, bindR_ok] at hm ⊢
      generalize evalKws W kws ρ' l' = p at hm ⊢
      obtain ⟨ex | vs, ρq, lq⟩ := p
      · obtain ⟨ρ₂', hev, hag2, hfr⟩ := hm
        exact ⟨ρ₂', by rw [hev]; rfl, hag2, hf0.comp hfr (Nat.le_refl _) hc2⟩
      · obtain ⟨ρ₂', hev, hag2, hfr, hother, hread⟩ := hm
        refine ⟨ρ₂', by rw [hev]; rfl, hag2, hf0.comp hfr (Nat.le_refl _) hc2, fun s hs => ?_, fun l'' => ?_⟩
        · rw [hother s fun n hn => hs n (List.mem_cons_of_mem _ hn), hoth0 s (hs nm (List.mem_cons_self ..))]
        · -- `nm` does not recur among `kws` (`hd.1`), so the tail left `__TMPk_nm` alone
          have hhead : ρ₂' (.tmp k (.kw nm)) = some v := by
            rw [hother _ fun n hn e => hd.1 (by injection e with e; exact e ▸ hn)]; exact hv v rfl
          show evalKws W ((nm, .var (.tmp k (.kw nm))) :: tmpKws k kws) ρ₂' l'' = _
          simp only [evalKws_cons, eval_var, hhead, hread, bindR_ok]

theorem mapM_toKeyElt (W : World) (hvs : List Val) (hks : List KeyElt) (h : hvs.mapM toKeyElt = some hks)
    (avs : List Val) (kvs : List (String × Val)) :
    (hvs ++ (avs.map (fun v => Val.ty (W.classOf v)) ++ kvs.map (fun p => Val.kwTy p.1 (W.classOf p.2)))).mapM toKeyElt
      = some (hks ++ keyOf W avs kvs) := by
  rw [mapM_option_iff] at h ⊢
  simp only [List.map_append, List.map_map, h, keyOf]
  rfl

def dispatchWith (W : World) (hks : List KeyElt) (avs : List Val) (kvs : List (String × Val)) (l : Log) : Except Exn Val × Log :=
  match W.lookup (hks ++ keyOf W avs kvs) with
  | .ok h => W.applyFn h avs kvs l
  | .error e => (.error e, l)

theorem applyVal_dispatchObj (W : World) (avs : List Val) (kvs : List (String × Val)) (l : Log) :
    applyVal W (.g .dispatchObj) avs kvs l = dispatchWith W [] avs kvs l := by
  simp only [applyVal, dispatchWith, List.nil_append]
  cases W.lookup (keyOf W avs kvs) <;> rfl
theorem applyVal_nextObj (W : World) (avs : List Val) (kvs : List (String × Val)) (l : Log) :
    applyVal W (.g .nextObj) avs kvs l = dispatchWith W [.code W.code] avs kvs l := by
  simp only [applyVal, dispatchWith, List.cons_append, List.nil_append]
  cases W.lookup (KeyElt.code W.code :: keyOf W avs kvs) <;> rfl

/-- the heart of C09: a dispatcher call `g(args, kws)` against `MAP[(hd..., type parts...)](temporaries...)`; the key
    prefix `hd` (`[]` for `recurse`, `[CODE]` for `call_next`) evaluates without effect to values whose key elements
    `hks` are the dispatcher's prefix -/
theorem sim_call (W : World) (ok : WOK W) (args : List Expr) (kws : List (String × Expr))
    (hA : PArgs W args) (hK : PKwArgs W kws)
    (g : String) (fv : Val) (hd : List Expr) (hvs : List Val) (hks : List KeyElt)
    (hglob : W.globals g = some fv)
    (happ : ∀ avs kvs l, applyVal W fv avs kvs l = dispatchWith W hks avs kvs l)
    (hhd : ∀ ρ l, evalList W hd ρ l = (.ok hvs, ρ, l)) (hkey : hvs.mapM toKeyElt = some hks)
    (k : Nat) (ρ ρ₂ : Env) (l : Log)
    (hua : userOnlyL args = true) (huk : userOnlyK kws = true) (hdn : distinctNames (kws.map Prod.fst) = true)
    (ha : Agree ρ ρ₂) :
    Sim k (rwKws kws k (rwArgs args k 0 (k + 1)).2).2 ρ₂
      (eval W (.call (.glob g) args kws) ρ l)
      (eval W (.call (.subscript (.glob "MAP") (.tuple (hd ++ ((rwArgs args k 0 (k + 1)).1 ++ (rwKws kws k (rwArgs args k 0 (k + 1)).2).1))))
                (tmpVars k 0 args) (tmpKws k kws)) ρ₂ l) := by
  have hc2 := rwKws_le kws k (rwArgs args k 0 (k + 1)).2
  have hm := (hA k 0 (k + 1) ρ ρ₂ l hua ha (Nat.lt_succ_self k)).2
  -- `evalList args; evalKws kws; applyVal fv` against
  -- `evalList argParts; evalList kwParts; mapM toKeyElt; lookup; evalList tmpVars; evalKws tmpKws; applyVal (.fn h)`
  simp only [eval_call, eval_subscript, eval_tuple, eval_glob_some W hglob, eval_glob_some W ok.map, evalList_append, hhd,
    bindR_ok, bindR_bindR]
  generalize evalList W args ρ l = o at hm ⊢
  obtain ⟨ex | avs, ρ', l'⟩ := o
  · obtain ⟨ρ₂', hev, hag, hfr⟩ := hm
    simp only [hev, bindR_error]
    exact ⟨rfl, rfl, hag, Frame.widen hfr (Nat.le_refl _) hc2⟩
  · obtain ⟨ρ₂', hev, hag, hfr, _, hslots, hlen⟩ := hm
    have hm2 := hK k (rwArgs args k 0 (k + 1)).2 ρ' ρ₂' l' huk hdn hag
      (Nat.lt_of_lt_of_le (Nat.lt_succ_self k) (rwArgs_le args k 0 (k + 1)))
    simp only [hev, bindR_ok]
    generalize evalKws W kws ρ' l' = o2 at hm2 ⊢
    obtain ⟨ex | kvs, ρ'', l''⟩ := o2
    · obtain ⟨ρ₂'', hev2, hag2, hfr2⟩ := hm2
      simp only [hev2, bindR_error]
      exact ⟨rfl, rfl, hag2, Frame.comp hfr hfr2 (Nat.le_refl _) hc2⟩
    · obtain ⟨ρ₂'', hev2, hag2, hfr2, hother2, hread2⟩ := hm2
      -- the keyword parts left the positional temporaries alone
      have hread := evalList_tmpVars W k ρ₂'' l'' args avs 0 hlen fun m hm => by
        rw [hother2 _ fun n _ e => Slot.noConfusion e]; exact hslots m hm
      simp only [hev2, bindR_ok, mapM_toKeyElt W hvs hks hkey avs kvs, happ, dispatchWith]
      cases W.lookup (hks ++ keyOf W avs kvs) with
      | error ex => exact ⟨rfl, rfl, hag2, Frame.comp hfr hfr2 (Nat.le_refl _) hc2⟩
      | ok h =>
        rw [bindR_ok, hread, bindR_ok, hread2, bindR_ok]
        exact ⟨rfl, rfl, hag2, Frame.comp hfr hfr2 (Nat.le_refl _) hc2⟩

theorem pExpr (W : World) (ok : WOK W) (e : Expr) : PExpr W e := by
  induction e using Expr.induction <;> intro k ρ ρ₂ l hu ha <;> refine ⟨rw_le _ k, ?_⟩
  case lit => exact .ret _ _ ha
  case glob x => rw [eval_glob, rw_glob, eval_glob]; exact .ret _ _ ha
  case var x =>
    cases x with
    | tmp j s => cases hu
    | user s => rw [eval_var, rw_var, eval_var, ha s]; exact .ret _ _ ha
  case named x e ih =>
    cases x with
    | tmp j s => cases hu
    | user s =>
      simp only [rw_named, eval_named]
      exact (ih k ρ ρ₂ l hu ha).2.bind (rw_le e k) (Nat.le_refl _) fun v _ _ _ h =>
        ⟨rfl, rfl, h.setUser s v, (Frame.refl _ _ _).ofSetUser⟩
  case tick _ e ih | pair _ e ih =>
    simp only [rw_tick, eval_tick, rw_pair, eval_pair]
    exact (ih k ρ ρ₂ l hu ha).2.bind (rw_le e k) (Nat.le_refl _) fun _ _ _ _ h => .ret _ _ h
  case tuple es ih =>
    simp only [rw_tuple, eval_tuple]
    exact (pList_of W es ih k ρ ρ₂ l hu ha).bind (rwList_le es k) (Nat.le_refl _) fun _ _ _ _ h => .ret _ _ h
  case add a b iha ihb =>
    have hu := Bool.and_eq_true_iff.1 hu
    simp only [rw_add, eval_add]
    refine (iha k ρ ρ₂ l hu.1 ha).2.bind (rw_le a k) (rw_le b _) fun v ρ' ρ₂' l' hag => ?_
    cases v with
    | int x => exact (ihb _ ρ' ρ₂' l' hu.2 hag).2.bind (rw_le b _) (Nat.le_refl _) fun _ _ _ _ h => .ret _ _ h
    | _ => exact .ret _ _ hag
  case subscript a b iha ihb =>
    have hu := Bool.and_eq_true_iff.1 hu
    simp only [rw_subscript, eval_subscript]
    refine (iha k ρ ρ₂ l hu.1 ha).2.bind (rw_le a k) (rw_le b _) fun v ρ' ρ₂' l' hag =>
      (ihb _ ρ' ρ₂' l' hu.2 hag).2.bind (rw_le b _) (Nat.le_refl _) fun w _ _ _ h => ?_
    split
    · split <;> exact .ret _ _ h
    · exact .ret _ _ h
  case ite c a b ihc iha ihb =>
    have hu := Bool.and_eq_true_iff.1 hu; simp only [Bool.and_eq_true] at hu
    simp only [rw_ite, eval_ite]
    refine (ihc k ρ ρ₂ l hu.1.1 ha).2.bind (rw_le c k) (Nat.le_trans (rw_le a _) (rw_le b _)) fun v ρ' ρ₂' l' hag => ?_
    -- the untaken branch still advances the counter: its temporaries are simply never assigned
    split
    · exact (ihb _ ρ' ρ₂' l' hu.2 hag).2.widen (rw_le a _) (Nat.le_refl _)
    · exact (iha _ ρ' ρ₂' l' hu.1.2 hag).2.widen (Nat.le_refl _) (rw_le b _)
  case call f args kws ihf iha ihk =>
    have hu := Bool.and_eq_true_iff.1 hu; simp only [Bool.and_eq_true] at hu
    by_cases hrec : f = .glob "recurse"
    · -- the rewritten call:  MAP[(type(t0 := a0'), …, ('n', type(tn := e')), …)](t0, …, n=tn, …)
      subst hrec
      rw [rw_call_recurse]
      exact sim_call W ok args kws (pArgs_of W ok args iha) (pKwArgs_of W ok kws ihk) "recurse" (.g .dispatchObj) [] [] []
        ok.recurse (applyVal_dispatchObj W) (fun _ _ => rfl) rfl k ρ ρ₂ l hu.1.1.2 hu.1.2 hu.2 ha
    by_cases hnext : f = .glob "call_next"
    · -- the rewritten call:  MAP[(CODE, type(t0 := a0'), …)](t0, …)
      subst hnext
      rw [rw_call_next]
      exact sim_call W ok args kws (pArgs_of W ok args iha) (pKwArgs_of W ok kws ihk) "call_next" (.g .nextObj)
        [.glob "CODE"] [.g (.codeObj W.code)] [.code W.code] ok.callNext (applyVal_nextObj W)
        (fun ρ l => by rw [evalList_cons, eval_glob_some W ok.code]; rfl) rfl k ρ ρ₂ l hu.1.1.2 hu.1.2 hu.2 ha
    · rw [rw_call f args kws k hrec hnext, eval_call, eval_call]
      exact (ihf k ρ ρ₂ l hu.1.1.1 ha).2.bind (rw_le f k) (Nat.le_trans (rwList_le args _) (rwKwList_le kws _))
        fun fv ρ1 ρ1' l1 h1 => (pList_of W args iha _ ρ1 ρ1' l1 hu.1.1.2 h1).bind (rwList_le args _) (rwKwList_le kws _)
          fun avs ρ2 ρ2' l2 h2 => (pKws_of W kws ihk _ ρ2 ρ2' l2 hu.1.2 h2).bind (rwKwList_le kws _) (Nat.le_refl _)
            fun _ _ _ _ h3 => .ret _ _ h3

/-- C09: for every well-formed expression written without the reserved temporaries, the rewritten expression
    evaluates to the same result / exception with the same sequence of side effects, and leaves the user's
    variables identical. -/
theorem C09_rewrite_preserves (W : World) (ok : WOK W) (e : Expr) (ρ : Env) (l : Log) (hu : userOnly e = true) :
    (eval W (rw e 0).1 ρ l).1 = (eval W e ρ l).1 ∧ (eval W (rw e 0).1 ρ l).2.2 = (eval W e ρ l).2.2
      ∧ Agree (eval W e ρ l).2.1 (eval W (rw e 0).1 ρ l).2.1 := by
  have h := (pExpr W ok e 0 ρ ρ l hu (fun _ => rfl)).2
  exact ⟨h.res, h.log, h.agree⟩

/-- positional arguments `tick t₁ n₁, tick t₂ n₂, …` (each logs its tag when evaluated) -/
def tickArgs (ts : List (String × Int)) : List Expr := ts.map (fun p => .tick p.1 (.lit p.2))
/-- keyword arguments `name₁ = tick t₁ n₁, …` -/
def tickKws (ks : List (String × String × Int)) : List (String × Expr) := ks.map (fun p => (p.1, .tick p.2.1 (.lit p.2.2)))

theorem evalList_tickArgs (W : World) : ∀ (ts : List (String × Int)) (ρ : Env) (l : Log),
    evalList W (tickArgs ts) ρ l = (.ok (ts.map (fun p => Val.int p.2)), ρ, l ++ ts.map (fun p => p.1))
  | [], ρ, l => by rw [List.map_nil, List.map_nil, List.append_nil]; rfl
  | p :: ts, ρ, l => by
    show evalList W (.tick p.1 (.lit p.2) :: tickArgs ts) ρ l = _
    simp only [evalList_cons, eval_tick, eval_lit, bindR_ok, evalList_tickArgs W ts, List.map_cons, List.append_assoc]; rfl

theorem evalKws_tickKws (W : World) : ∀ (ks : List (String × String × Int)) (ρ : Env) (l : Log),
    evalKws W (tickKws ks) ρ l = (.ok (ks.map (fun p => (p.1, Val.int p.2.2))), ρ, l ++ ks.map (fun p => p.2.1))
  | [], ρ, l => by rw [List.map_nil, List.map_nil, List.append_nil]; rfl
  | p :: ks, ρ, l => by
    show evalKws W ((p.1, .tick p.2.1 (.lit p.2.2)) :: tickKws ks) ρ l = _
    simp only [evalKws_cons, eval_tick, eval_lit, bindR_ok, evalKws_tickKws W ks, List.map_cons, List.append_assoc]; rfl

theorem userOnlyL_tickArgs : ∀ (ts : List (String × Int)), userOnlyL (tickArgs ts) = true
  | [] => rfl
  | _ :: ts => userOnlyL_tickArgs ts
theorem userOnlyK_tickKws : ∀ (ks : List (String × String × Int)), userOnlyK (tickKws ks) = true
  | [] => rfl
  | _ :: ks => userOnlyK_tickKws ks

theorem userOnly_tickCall (g : String) (ts : List (String × Int)) (ks : List (String × String × Int))
    (hd : distinctNames (ks.map (fun p => p.1)) = true) : userOnly (.call (.glob g) (tickArgs ts) (tickKws ks)) = true := by
  have e : (tickKws ks).map Prod.fst = ks.map (fun p => p.1) := by rw [tickKws, List.map_map]; rfl
  show (true && userOnlyL (tickArgs ts) && userOnlyK (tickKws ks) && distinctNames ((tickKws ks).map Prod.fst)) = true
  rw [userOnlyL_tickArgs, userOnlyK_tickKws, e, hd]; rfl

/-- a rewritten call of a global applies what the global is bound to to the values of the original arguments, with the
    log their evaluation (once each, in order) leaves -/
theorem rewritten_call_applies (W : World) (ok : WOK W) {g : String} {fv : Val} (hg : W.globals g = some fv)
    {as : List Expr} {ks : List (String × Expr)} (hu : userOnly (.call (.glob g) as ks) = true)
    {ρ ρ1 ρ2 : Env} {l l1 l2 : Log} {avs : List Val} {kvs : List (String × Val)}
    (ha : evalList W as ρ l = (.ok avs, ρ1, l1)) (hk : evalKws W ks ρ1 l1 = (.ok kvs, ρ2, l2)) :
    (eval W (rw (.call (.glob g) as ks) 0).1 ρ l).1 = (applyVal W fv avs kvs l2).1
      ∧ (eval W (rw (.call (.glob g) as ks) 0).1 ρ l).2.2 = (applyVal W fv avs kvs l2).2 := by
  obtain ⟨h1, h2, _⟩ := C09_rewrite_preserves W ok _ ρ l hu
  rw [h1, h2, eval_call, eval_glob_some W hg, bindR_ok, ha, bindR_ok, hk, bindR_ok]
  exact ⟨rfl, rfl⟩

/-- C09, order and multiplicity: in the rewritten `recurse(tick t₁ n₁, …, name = tick t n, …)` every argument is
    evaluated exactly once, positional arguments first, each group in source order, and all of them before the
    dispatch: the dispatcher runs on the argument values with the log `l ++ positional tags ++ keyword tags`. -/
theorem C09_args_once_in_order (W : World) (ok : WOK W) (ts : List (String × Int)) (ks : List (String × String × Int))
    (hd : distinctNames (ks.map (fun p => p.1)) = true) (ρ : Env) (l : Log) :
    (eval W (rw (.call (.glob "recurse") (tickArgs ts) (tickKws ks)) 0).1 ρ l).1
        = (applyVal W (.g .dispatchObj) (ts.map (fun p => Val.int p.2)) (ks.map (fun p => (p.1, Val.int p.2.2)))
            (l ++ ts.map (fun p => p.1) ++ ks.map (fun p => p.2.1))).1
    ∧ (eval W (rw (.call (.glob "recurse") (tickArgs ts) (tickKws ks)) 0).1 ρ l).2.2
        = (applyVal W (.g .dispatchObj) (ts.map (fun p => Val.int p.2)) (ks.map (fun p => (p.1, Val.int p.2.2)))
            (l ++ ts.map (fun p => p.1) ++ ks.map (fun p => p.2.1))).2 :=
  rewritten_call_applies W ok ok.recurse (userOnly_tickCall _ ts ks hd) (evalList_tickArgs W ts ρ l) (evalKws_tickKws W ks ρ _)

/-- the same for `call_next(…)` -/
theorem C09_args_once_in_order_next (W : World) (ok : WOK W) (ts : List (String × Int)) (ks : List (String × String × Int))
    (hd : distinctNames (ks.map (fun p => p.1)) = true) (ρ : Env) (l : Log) :
    (eval W (rw (.call (.glob "call_next") (tickArgs ts) (tickKws ks)) 0).1 ρ l).1
        = (applyVal W (.g .nextObj) (ts.map (fun p => Val.int p.2)) (ks.map (fun p => (p.1, Val.int p.2.2)))
            (l ++ ts.map (fun p => p.1) ++ ks.map (fun p => p.2.1))).1
    ∧ (eval W (rw (.call (.glob "call_next") (tickArgs ts) (tickKws ks)) 0).1 ρ l).2.2
        = (applyVal W (.g .nextObj) (ts.map (fun p => Val.int p.2)) (ks.map (fun p => (p.1, Val.int p.2.2)))
            (l ++ ts.map (fun p => p.1) ++ ks.map (fun p => p.2.1))).2 :=
  rewritten_call_applies W ok ok.callNext (userOnly_tickCall _ ts ks hd) (evalList_tickArgs W ts ρ l) (evalKws_tickKws W ks ρ _)

mutual
theorem rw_of_noRecCall : ∀ (e : Expr), noRecCall e = true → ∀ k, rw e k = (e, k)
  | .lit _, _, _ | .var _, _, _ | .glob _, _, _ => rfl
  | .named x e, hn, k => by rw [rw_named, rw_of_noRecCall e hn]
  | .tick t e, hn, k => by rw [rw_tick, rw_of_noRecCall e hn]
  | .pair n e, hn, k => by rw [rw_pair, rw_of_noRecCall e hn]
  | .add a b, hn, k => by
    have hn := Bool.and_eq_true_iff.1 hn
    rw [rw_add, rw_of_noRecCall a hn.1, rw_of_noRecCall b hn.2]
  | .subscript a b, hn, k => by
    have hn := Bool.and_eq_true_iff.1 hn
    rw [rw_subscript, rw_of_noRecCall a hn.1, rw_of_noRecCall b hn.2]
  | .ite c a b, hn, k => by
    have hn := Bool.and_eq_true_iff.1 hn; simp only [Bool.and_eq_true] at hn
    rw [rw_ite, rw_of_noRecCall c hn.1.1, rw_of_noRecCall a hn.1.2, rw_of_noRecCall b hn.2]
  | .tuple es, hn, k => by rw [rw_tuple, rwList_of_noRecCall es hn]
  | .call f args kws, hn, k => by
    have hn := Bool.and_eq_true_iff.1 hn; simp only [Bool.and_eq_true, Bool.not_eq_true'] at hn
    have hf := not_isRecName hn.1.1.1
    rw [rw_call f args kws k hf.1 hf.2, rw_of_noRecCall f hn.1.1.2, rwList_of_noRecCall args hn.1.2,
      rwKwList_of_noRecCall kws hn.2]
theorem rwList_of_noRecCall : ∀ (es : List Expr), noRecCallL es = true → ∀ k, rwList es k = (es, k)
  | [], _, _ => rfl
  | e :: es, hn, k => by
    have hn := Bool.and_eq_true_iff.1 hn
    rw [rwList_cons, rw_of_noRecCall e hn.1, rwList_of_noRecCall es hn.2]
theorem rwKwList_of_noRecCall : ∀ (es : List (String × Expr)), noRecCallK es = true → ∀ k, rwKwList es k = (es, k)
  | [], _, _ => rfl
  | (n, e) :: es, hn, k => by
    have hn := Bool.and_eq_true_iff.1 hn
    rw [rwKwList_cons, rw_of_noRecCall e hn.1, rwKwList_of_noRecCall es hn.2]
end

/-- an expression that contains no call of the globals `recurse` / `call_next` is returned unchanged (and consumes
    no temporary prefix: `rw_of_noRecCall`) -/
theorem rw_id (e : Expr) (h : noRecCall e = true) (k : Nat) : (rw e k).1 = e := by
  rw [rw_of_noRecCall e h k]

/-! ### a concrete run: nested calls, keywords, `call_next`

`recurse(tick a (x), call_next(tick b (1), u = tick c (2)), p = tick d (1), q = recurse(z = tick e (0)))` -/
namespace Example
def W0 : World where
  globals := fun s =>
    if s = "recurse" then some (.g .dispatchObj) else if s = "call_next" then some (.g .nextObj)
    else if s = "MAP" then some (.g .mapObj) else if s = "type" then some (.g .typeFn)
    else if s = "CODE" then some (.g (.codeObj 3)) else none
  classOf := fun v => match v with | .int _ => 1 | _ => 0
  lookup := fun ks => if ks.length = 1 then .ok 7 else if ks.length = 2 then .ok 8 else .ok 9
  code := 3
  applyFn := fun h args kws l => (.ok (.int (h + args.length + 10 * kws.length)), l ++ [s!"enter{h}"])
def e0 : Expr :=
  .call (.glob "recurse")
    [.tick "a" (.var (.user "x")), .call (.glob "call_next") [.tick "b" (.lit 1)] [("u", .tick "c" (.lit 2))]]
    [("p", .tick "d" (.lit 1)), ("q", .call (.glob "recurse") [] [("z", .tick "e" (.lit 0))])]
def ρ0 : Env := fun n => if n = .user "x" then some (.int 5) else none

theorem W0_ok : WOK W0 := ⟨by decide +kernel, by decide +kernel, by decide +kernel, by decide +kernel, by decide +kernel⟩

/-- the temporaries: prefix 0 for the outer call, 1 for `call_next(…)` (visited among the positional arguments), 2 for
    the `recurse(…)` in the keyword value -/
example : rw e0 0 =
    (.call (.subscript (.glob "MAP") (.tuple
        [typeCall (.tmp 0 (.pos 0)) (.tick "a" (.var (.user "x"))),
         typeCall (.tmp 0 (.pos 1))
           (.call (.subscript (.glob "MAP") (.tuple
               [.glob "CODE", typeCall (.tmp 1 (.pos 0)) (.tick "b" (.lit 1)),
                .pair "u" (typeCall (.tmp 1 (.kw "u")) (.tick "c" (.lit 2)))]))
             [.var (.tmp 1 (.pos 0))] [("u", .var (.tmp 1 (.kw "u")))]),
         .pair "p" (typeCall (.tmp 0 (.kw "p")) (.tick "d" (.lit 1))),
         .pair "q" (typeCall (.tmp 0 (.kw "q"))
           (.call (.subscript (.glob "MAP") (.tuple [.pair "z" (typeCall (.tmp 2 (.kw "z")) (.tick "e" (.lit 0)))]))
             [] [("z", .var (.tmp 2 (.kw "z")))]))]))
      [.var (.tmp 0 (.pos 0)), .var (.tmp 0 (.pos 1))]
      [("p", .var (.tmp 0 (.kw "p"))), ("q", .var (.tmp 0 (.kw "q")))], 3) := by rfl

theorem eq_ok_of_toOption {ε α : Type} {x : Except ε α} {v : α} (h : x.toOption = some v) : x = .ok v := by
  cases x with
  | ok => exact congrArg _ (Option.some.inj h)
  | error => cases h

/-- the original and the rewritten run (`.toOption`: `Except` has no `DecidableEq`); the examples below are its parts -/
theorem e0_runs : ∀ r ∈ [eval W0 e0 ρ0 [], eval W0 (rw e0 0).1 ρ0 []],
    r.1.toOption = some (.int 31) ∧ r.2.2 = ["a", "b", "c", "enter9", "d", "e", "enter7", "enter9"]
      ∧ r.2.1 (.user "x") = some (.int 5) := by decide +kernel

example : (eval W0 e0 ρ0 []).2.2 = ["a", "b", "c", "enter9", "d", "e", "enter7", "enter9"] := (e0_runs _ (.head _)).2.1
example : (eval W0 (rw e0 0).1 ρ0 []).2.2 = ["a", "b", "c", "enter9", "d", "e", "enter7", "enter9"] :=
  (e0_runs _ (.tail _ (.head _))).2.1
example : (eval W0 (rw e0 0).1 ρ0 []).1 = .ok (.int 31) ∧ (eval W0 e0 ρ0 []).1 = .ok (.int 31) :=
  ⟨eq_ok_of_toOption (e0_runs _ (.tail _ (.head _))).1, eq_ok_of_toOption (e0_runs _ (.head _)).1⟩
example : (eval W0 (rw e0 0).1 ρ0 []).2.1 (.user "x") = some (.int 5) := (e0_runs _ (.tail _ (.head _))).2.2
end Example

end Ovld.Rw

import Ovldverif.Model.Entry
import Ovldverif.Lemmas.ListFacts
/-!
# C03 — the dispatcher passes arguments, defaults, results and errors through intact

`entry a c` is the generated entry point applied to a call; `methodBind d x` is CPython binding the forwarded
arguments to the selected method's own parameter list.  `entry'` is `entry` without its `for` loops; a keyword loop
that raises nothing has sorted the keyword arguments, in order, into those CPython binds to a position and the others,
nothing filled twice (`kwFold_ok`, `KwBinding`).
-/
set_option autoImplicit false
namespace Ovld

/-- the caller's view: the argument supplied for position `i`, positionally or, where the position may be passed by
    keyword, under its name; the theorems compare what the entry point sees (`valAtOf`) with it -/
def suppliedAt (a : Analysis) (c : Call) (i : Nat) : Option Arg :=
  match c.pos[i]? with
  | some v => some v
  | none =>
    match a.nameOfPos i with
    | some n => if i ≥ a.posOnly then (c.kw.find? (fun e => e.1 == n)).map (·.2) else none
    | none => none

abbrev KwSt := List (Nat × Arg) × List (Nat × Arg)

/-- the position that CPython fills with keyword `n`, if any -/
def posOfKw (a : Analysis) (n : Nat) : Option Nat :=
  (List.range a.npos).find? (fun i => decide (i ≥ a.posOnly) && a.nameOfPos i == some n)

theorem posOfKw_some {a : Analysis} {n i : Nat} (h : posOfKw a n = some i) :
    i < a.npos ∧ i ≥ a.posOnly ∧ a.nameOfPos i = some n := by
  have h1 := List.find?_some h
  simp only [Bool.and_eq_true, decide_eq_true_eq, beq_iff_eq] at h1
  exact ⟨List.mem_range.1 (List.mem_of_find?_eq_some h), h1.1, h1.2⟩

theorem nameOfPos_inj {a : Analysis} (hnd : a.names.Nodup) {i j n : Nat}
    (hi : a.nameOfPos i = some n) (hj : a.nameOfPos j = some n) : i = j := by
  unfold Analysis.nameOfPos at hi hj
  split at hi
  · cases hi
  · split at hj
    · cases hj
    · have := (List.getElem?_inj (List.getElem?_eq_some_iff.1 hi).1 hnd).1 (hi.trans hj.symm)
      omega

theorem posOfKw_eq {a : Analysis} (hnd : a.names.Nodup) {i n : Nat} (hi : i < a.npos) (hge : i ≥ a.posOnly)
    (hn : a.nameOfPos i = some n) : posOfKw a n = some i := by
  cases hf : posOfKw a n with
  | none => have := List.find?_range_eq_none.1 hf i hi; simp [hge, hn] at this
  | some j => exact congrArg some (nameOfPos_inj hnd (posOfKw_some hf).2.2 hn)

/-- one iteration of the keyword loop; the tests are spelt `(decide … || …) = true` as the `if`s of `entry` elaborate,
    so that `entry_eq` closes by `rfl` (likewise `decide (i ≥ …) && …` in `posOfKw` and `finish`) -/
def kwStep (a : Analysis) (c : Call) (st : KwSt) (e : Nat × Arg) : Except BindErr KwSt :=
  match posOfKw a e.1 with
  | some i =>
    if (decide (i < c.pos.length) || st.1.any (fun s => s.1 == i)) = true then .error .multipleValues
    else .ok (st.1 ++ [(i, e.2)], st.2)
  | none =>
    if (a.kwReq ++ a.kwOpt).contains e.1 = true then
      if (st.2.any (fun s => s.1 == e.1)) = true then .error .multipleValues
      else .ok (st.1, st.2 ++ [e])
    else .error .unexpectedKw

def valAtOf (c : Call) (slots : List (Nat × Arg)) (i : Nat) : Option Arg :=
  match c.pos[i]? with
  | some v => some v
  | none => (slots.find? (fun s => s.1 == i)).map (·.2)

def finish (a : Analysis) (c : Call) (slots kws : List (Nat × Arg)) : Dispatch :=
  let valAt := valAtOf c slots
  let firstMissing := (List.range a.npos).find? (fun i => decide (i ≥ a.nreq) && (valAt i).isNone)
  let kk := a.kwReq.filterMap (fun n => (kws.find? (fun s => s.1 == n))) ++
            a.kwOpt.filterMap (fun n => (kws.find? (fun s => s.1 == n)))
  let vals := match firstMissing with
    | some m => (List.range m).filterMap valAt
    | none => (List.range a.npos).filterMap valAt
  { key := vals.zipIdx.map (fun (v, i) => (Slot.pos i, keyTy (a.complexPos.contains i) v)) ++
                  kk.map (fun (n, v) => (Slot.kw n, keyTy (a.complexKw.contains n) v)),
           passPos := vals, passKw := kk }

def entry' (a : Analysis) (c : Call) : Except BindErr Dispatch :=
  if c.pos.length > a.npos then .error .tooManyPos else
  match foldE (kwStep a c) c.kw ([], []) with
  | .error e => .error e
  | .ok st =>
    if (List.range a.nreq).any (fun i => (valAtOf c st.1 i).isNone) = true then .error .missingRequired
    else if a.kwReq.any (fun n => !(st.2.any (fun s => s.1 == n))) = true then .error .missingRequired
    else .ok (finish a c st.1 st.2)

/-- Unfolded, `entry a c` is `if … then throw tooManyPos else do let st ← forIn c.kw ([], []) body;
    forIn (range nreq) () check₁; forIn kwReq () check₂; pure (finish …)`; after the first `if` the three loops are
    rewritten as folds, the body compared with `kwStep` test by test. -/
theorem entry_eq (a : Analysis) (c : Call) : entry a c = entry' a c := by
  unfold entry entry'
  refine ite_congr rfl (fun _ => rfl) fun _ => ?_
  dsimp only
  rw [forIn_eq_foldE (kwStep a c)]
  · cases foldE (kwStep a c) c.kw ([], []) with
    | error e => rfl
    | ok st =>
      exact check_seq (fun i => (valAtOf c st.1 i).isNone) (fun n => !(st.2.any (fun s => s.1 == n)))
        BindErr.missingRequired _ _ (fun _ _ => rfl) (fun _ _ => rfl) _ _ _
  · intro x s
    unfold kwStep posOfKw
    generalize List.find? _ _ = o
    cases o with
    | some i => dsimp only; generalize (_ || _) = b; cases b <;> rfl
    | none =>
      dsimp only
      generalize (a.kwReq ++ a.kwOpt).contains _ = b
      cases b
      · rfl
      · generalize List.any _ _ = b; cases b <;> rfl

def slotOf (a : Analysis) (e : Nat × Arg) : Option (Nat × Arg) := (posOfKw a e.1).map (·, e.2)

theorem slotOf_eq_some {a : Analysis} {e s : Nat × Arg} : slotOf a e = some s ↔ posOfKw a e.1 = some s.1 ∧ e.2 = s.2 := by
  unfold slotOf
  cases posOfKw a e.1 with
  | none => exact ⟨nofun, fun h => nomatch h.1⟩
  | some i => exact ⟨fun h => Option.some.inj h ▸ ⟨rfl, rfl⟩, fun ⟨h1, h2⟩ => by cases s; cases h1; cases h2; rfl⟩

abbrev Distinct {β : Type} (l : List (Nat × β)) : Prop := l.Pairwise (fun x y => x.1 ≠ y.1)

theorem Distinct.snoc {l : List (Nat × Arg)} {e : Nat × Arg} (h : Distinct l) (he : l.any (fun s => s.1 == e.1) = false) :
    Distinct (l ++ [e]) :=
  List.pairwise_append.2 ⟨h, List.pairwise_singleton _ _, fun s hs t ht hst =>
    Bool.false_ne_true (he.symm.trans (List.any_eq_true.2 ⟨s, hs, by cases List.mem_singleton.1 ht; simpa using hst⟩))⟩

theorem kwStep_ok {a : Analysis} {c : Call} {st st' : KwSt} {x : Nat × Arg} (h : kwStep a c st x = .ok st') :
    (∃ i, posOfKw a x.1 = some i ∧ st.1.any (fun s => s.1 == i) = false ∧ st' = (st.1 ++ [(i, x.2)], st.2)) ∨
      (posOfKw a x.1 = none ∧ st.2.any (fun s => s.1 == x.1) = false ∧ st' = (st.1, st.2 ++ [x])) := by
  revert h
  -- case2: the keyword names a free position `i`; case4: a new keyword-only name; the others raise
  fun_cases kwStep a c st x with
  | case1 | case3 | case5 => nofun
  | case2 i hf hc =>
    rw [Bool.or_eq_true, not_or] at hc
    exact fun h => .inl ⟨i, hf, Bool.eq_false_iff.2 hc.2, (Except.ok.inj h).symm⟩
  | case4 hf _ hc => exact fun h => .inr ⟨hf, Bool.eq_false_iff.2 hc, (Except.ok.inj h).symm⟩

structure KwRun (a : Analysis) (l : List (Nat × Arg)) (st st' : KwSt) : Prop where
  slots : st'.1 = st.1 ++ l.filterMap (slotOf a)
  kws : st'.2 = st.2 ++ l.filter (fun e => (posOfKw a e.1).isNone)
  slots_nd : Distinct st.1 → Distinct st'.1
  kws_nd : Distinct st.2 → Distinct st'.2

theorem kwFold_ok {a : Analysis} {c : Call} (l : List (Nat × Arg)) (st st' : KwSt)
    (h : foldE (kwStep a c) l st = .ok st') : KwRun a l st st' := by
  fun_induction foldE (kwStep a c) l st with
  | case1 st =>
    cases h
    exact ⟨(List.append_nil _).symm, (List.append_nil _).symm, id, id⟩
  | case2 x xs st s1 hs ih =>
    have r := ih h
    rcases kwStep_ok hs with ⟨i, hf, h2, rfl⟩ | ⟨hf, h2, rfl⟩
    · have hF := List.filterMap_cons_some (l := xs) (slotOf_eq_some.2 ⟨hf, rfl⟩ : slotOf a x = some (i, x.2))
      have hG : (x :: xs).filter (fun e => (posOfKw a e.1).isNone) = _ := List.filter_cons_of_neg (by simp [hf])
      exact ⟨by rw [hF, r.slots, List.append_assoc]; rfl, hG ▸ r.kws, fun hd => r.slots_nd (hd.snoc h2), r.kws_nd⟩
    · have hF := List.filterMap_cons_none (l := xs) (by simp [slotOf, hf] : slotOf a x = none)
      have hG : (x :: xs).filter (fun e => (posOfKw a e.1).isNone) = _ := List.filter_cons_of_pos (by simp [hf])
      exact ⟨hF ▸ r.slots, by rw [hG, r.kws, List.append_assoc]; rfl, r.slots_nd, fun hd => r.kws_nd (hd.snoc h2)⟩
  | case3 x xs st e hs => cases h

structure KwBinding (a : Analysis) (c : Call) (slots kws : List (Nat × Arg)) : Prop where
  slots_eq : slots = c.kw.filterMap (slotOf a)
  kws_eq : kws = c.kw.filter (fun e => (posOfKw a e.1).isNone)
  slots_nd : Distinct slots
  kws_nd : Distinct kws
  req : ∀ i, i < a.nreq → (valAtOf c slots i).isSome = true

theorem entry_ok {a : Analysis} {c : Call} {x : Dispatch} (h : entry a c = .ok x) :
    ∃ slots kws, KwBinding a c slots kws ∧ x = finish a c slots kws := by
  rw [entry_eq] at h
  revert h
  fun_cases entry' a c with
  | case1 | case2 | case3 | case4 => nofun
  | case5 _ st hst hreq _ =>
    intro h
    have r := kwFold_ok c.kw ([], []) st hst
    refine ⟨st.1, st.2, ⟨r.slots, r.kws, r.slots_nd .nil, r.kws_nd .nil, fun i hi => ?_⟩, (Except.ok.inj h).symm⟩
    cases hv : valAtOf c st.1 i with
    | some v => rfl
    | none => exact absurd (List.any_eq_true.2 ⟨i, List.mem_range.2 hi, by rw [hv]; rfl⟩) hreq

/-- the early exit: `m` is the first omitted position (or `npos`) -/
theorem finish_passPos (a : Analysis) (c : Call) (slots kws : List (Nat × Arg))
    (hreq : ∀ i, i < a.nreq → (valAtOf c slots i).isSome = true) :
    ∃ m, m ≤ a.npos ∧ (∀ i, i < m → (valAtOf c slots i).isSome = true) ∧
      (m < a.npos → valAtOf c slots m = none) ∧
      (finish a c slots kws).passPos = (List.range m).filterMap (valAtOf c slots) := by
  have hsome : ∀ i, (!(decide (i ≥ a.nreq) && (valAtOf c slots i).isNone)) = true →
      (valAtOf c slots i).isSome = true := fun i hp => by
    by_cases hr : i < a.nreq
    · exact hreq i hr
    · cases hv : valAtOf c slots i with
      | some v => rfl
      | none => simp [hv, Nat.le_of_not_lt hr] at hp
  unfold finish
  dsimp only
  cases hfm : (List.range a.npos).find? (fun i => decide (i ≥ a.nreq) && (valAtOf c slots i).isNone) with
  | none =>
    exact ⟨a.npos, Nat.le_refl _, fun i hi => hsome i (List.find?_range_eq_none.1 hfm i hi),
      fun h => absurd h (Nat.lt_irrefl _), rfl⟩
  | some m =>
    obtain ⟨hp, hmem, hbefore⟩ := List.find?_range_eq_some.1 hfm
    refine ⟨m, Nat.le_of_lt (List.mem_range.1 hmem), fun i hi => hsome i (hbefore i hi), fun _ => ?_, rfl⟩
    rw [Bool.and_eq_true] at hp
    exact Option.isNone_iff_eq_none.1 hp.2

theorem finish_passKw (a : Analysis) (c : Call) (slots : List (Nat × Arg)) {kws : List (Nat × Arg)}
    (hnd : Distinct kws) (e : Nat × Arg) :
    e ∈ (finish a c slots kws).passKw ↔ e ∈ kws ∧ e.1 ∈ a.kwReq ++ a.kwOpt := by
  show e ∈ a.kwReq.filterMap (fun n => kws.find? (fun s => s.1 == n)) ++ a.kwOpt.filterMap _ ↔ _
  rw [← List.filterMap_append, List.mem_filterMap]
  constructor
  · rintro ⟨n, hn, hf⟩
    obtain ⟨h1, rfl⟩ := (find?_fst_iff hnd n e).1 hf
    exact ⟨h1, hn⟩
  · exact fun ⟨h1, h2⟩ => ⟨e.1, h2, (find?_fst_iff hnd e.1 e).2 ⟨h1, rfl⟩⟩

section
variable {a : Analysis} {c : Call} {slots kws : List (Nat × Arg)} (b : KwBinding a c slots kws)
include b

/-- two keyword arguments of one name would go the same way, both to the position `posOfKw a n` or both to the
    keyword-only ones, and there the loop would have raised -/
theorem KwBinding.names_nd : Distinct c.kw := by
  have h1 := List.pairwise_filterMap.1 (b.slots_eq ▸ b.slots_nd)
  have h2 := List.pairwise_filter.1 (b.kws_eq ▸ b.kws_nd)
  refine h1.imp₂ (fun x y p q hxy => ?_) h2
  cases hf : posOfKw a x.1 with
  | none => exact q (by simp [hf]) (by simp [← hxy, hf]) hxy
  | some i => exact p (i, x.2) (slotOf_eq_some.2 ⟨hf, rfl⟩) (i, y.2) (slotOf_eq_some.2 ⟨hxy ▸ hf, rfl⟩) rfl

theorem KwBinding.valAt_iff (i : Nat) (v : Arg) :
    valAtOf c slots i = some v ↔
      c.pos[i]? = some v ∨ (c.pos[i]? = none ∧ ∃ n, (n, v) ∈ c.kw ∧ posOfKw a n = some i) := by
  unfold valAtOf
  cases c.pos[i]? with
  | some w => simp
  | none =>
    constructor
    · intro h
      obtain ⟨s, hs, rfl⟩ := Option.map_eq_some_iff.1 h
      obtain ⟨h1, rfl⟩ := (find?_fst_iff b.slots_nd _ s).1 hs
      obtain ⟨e, he, hse⟩ := List.mem_filterMap.1 (b.slots_eq ▸ h1)
      obtain ⟨hf, hv⟩ := slotOf_eq_some.1 hse
      exact .inr ⟨rfl, e.1, hv ▸ he, hf⟩
    · rintro (h | ⟨_, n, hn, hf⟩)
      · cases h
      · have : (i, v) ∈ slots := b.slots_eq ▸ List.mem_filterMap.2 ⟨(n, v), hn, slotOf_eq_some.2 ⟨hf, rfl⟩⟩
        exact Option.map_eq_some_iff.2 ⟨_, (find?_fst_iff b.slots_nd i _).2 ⟨this, rfl⟩, rfl⟩

theorem KwBinding.mem_kws (e : Nat × Arg) : e ∈ kws ↔ e ∈ c.kw ∧ posOfKw a e.1 = none := by
  rw [b.kws_eq, List.mem_filter, Option.isNone_iff_eq_none]

/-- what the entry point sees was supplied there, for any analysis -/
theorem KwBinding.valAt_supplied {i : Nat} {v : Arg} (h : valAtOf c slots i = some v) : suppliedAt a c i = some v := by
  unfold suppliedAt
  rcases (b.valAt_iff i v).1 h with hp | ⟨hp, n, hn, hf⟩
  · rw [hp]
  · obtain ⟨_, hge, hname⟩ := posOfKw_some hf
    rw [hp, hname]
    dsimp only
    rw [if_pos hge, (find?_fst_iff b.names_nd n (n, v)).2 ⟨hn, rfl⟩]
    rfl

theorem KwBinding.supplied_valAt (hnd : a.names.Nodup) {i : Nat} {v : Arg} (hi : i < a.npos) (h : suppliedAt a c i = some v) :
    valAtOf c slots i = some v := by
  refine (b.valAt_iff i v).2 ?_
  revert h
  fun_cases suppliedAt a c i with
  | case1 w hp => exact fun h => .inl (hp.trans h)
  | case2 hp n hn hge =>
    intro h
    obtain ⟨e, he, rfl⟩ := Option.map_eq_some_iff.1 h
    obtain ⟨hmem, rfl⟩ := (find?_fst_iff b.names_nd n e).1 he
    exact .inr ⟨hp, e.1, hmem, posOfKw_eq hnd hi hge hn⟩
  | case3 | case4 => nofun

end

/-- everything forwarded was supplied by the caller: no placeholder, no other value -/
theorem C03_forwards_only_supplied (a : Analysis) (c : Call) (x : Dispatch) (h : entry a c = .ok x) :
    (∀ v ∈ x.passPos, v ∈ c.pos ∨ ∃ n, (n, v) ∈ c.kw) ∧ (∀ e ∈ x.passKw, e ∈ c.kw) := by
  obtain ⟨slots, kws, b, rfl⟩ := entry_ok h
  obtain ⟨m, _, _, _, hpp⟩ := finish_passPos a c slots kws b.req
  constructor
  · intro v hv
    rw [hpp] at hv
    obtain ⟨i, _, hi⟩ := List.mem_filterMap.1 hv
    rcases (b.valAt_iff i v).1 hi with hp | ⟨_, n, hn, _⟩
    · exact .inl (List.mem_of_getElem? hp)
    · exact .inr ⟨n, hn⟩
  · exact fun e he => ((b.mem_kws e).1 ((finish_passKw a c slots b.kws_nd e).1 he).1).1

/-- positional arguments keep their positions -/
theorem C03_positions (a : Analysis) (c : Call) (x : Dispatch) (h : entry a c = .ok x) :
    ∀ i v, x.passPos[i]? = some v → suppliedAt a c i = some v := by
  obtain ⟨slots, kws, b, rfl⟩ := entry_ok h
  obtain ⟨m, _, hall, _, hpp⟩ := finish_passPos a c slots kws b.req
  intro i v hv
  rw [hpp] at hv
  exact b.valAt_supplied ((getElem?_filterMap_range _ m hall i v).1 hv).2

/-- the lookup key is exactly the types of what is forwarded, slot by slot -/
theorem C03_key (a : Analysis) (c : Call) (x : Dispatch) (h : entry a c = .ok x) :
    x.key = (x.passPos.zipIdx.map (fun (v, i) => (Slot.pos i, keyTy (a.complexPos.contains i) v))) ++
            (x.passKw.map (fun (n, v) => (Slot.kw n, keyTy (a.complexKw.contains n) v))) := by
  obtain ⟨_, _, _, rfl⟩ := entry_ok h
  rfl

/-- nothing is dropped: when every supplied positional slot lies before the first omitted one, each supplied
    argument is forwarded (positionally supplied ones in order; keyword-only ones under their names).

    `hnames` (no name is declared at two positions; that `analyze` only returns such analyses is not proved here) is
    needed: with `names := [5, 5]`, `npos := 2`, `nreq := 1`, `nstrict := 0` and the call `f(**{5: v})`, CPython binds
    the keyword to position 0 only and `entry` forwards `[v]`, but `suppliedAt` reports `v` at positions 0 and 1. -/
theorem C03_nothing_dropped (a : Analysis) (c : Call) (x : Dispatch) (h : entry a c = .ok x)
    (hnames : a.names.Nodup)
    (hnogap : ∀ i, i < a.npos → (suppliedAt a c i).isSome → ∀ j, j < i → (suppliedAt a c j).isSome) :
    (∀ i v, suppliedAt a c i = some v → i < a.npos → x.passPos[i]? = some v) ∧
    (∀ e ∈ c.kw, (a.kwReq ++ a.kwOpt).contains e.1 = true →
        (∀ i, i < a.npos → i ≥ a.posOnly → a.nameOfPos i ≠ some e.1) → e ∈ x.passKw) := by
  obtain ⟨slots, kws, b, rfl⟩ := entry_ok h
  obtain ⟨m, _, hall, hmiss, hpp⟩ := finish_passPos a c slots kws b.req
  constructor
  · intro i v hs hi
    rw [hpp]
    refine (getElem?_filterMap_range _ m hall i v).2 ⟨?_, b.supplied_valAt hnames hi hs⟩
    -- were `m ≤ i`, position `m` would be supplied (no gap below `i`) and yet the first omitted one
    apply Nat.lt_of_not_le
    intro hmi
    have hm : m < a.npos := Nat.lt_of_le_of_lt hmi hi
    obtain ⟨w, hw⟩ : ∃ w, suppliedAt a c m = some w := by
      rcases Nat.lt_or_eq_of_le hmi with hlt | rfl
      · exact Option.isSome_iff_exists.1 (hnogap i hi (hs ▸ rfl) m hlt)
      · exact ⟨v, hs⟩
    exact nomatch (b.supplied_valAt hnames hm hw).symm.trans (hmiss hm)
  · intro e he hcont hnopos
    have hk : e ∈ kws := (b.mem_kws e).2 ⟨he, by
      cases hf : posOfKw a e.1 with
      | none => rfl
      | some j => exact absurd (posOfKw_some hf).2.2 (hnopos j (posOfKw_some hf).1 (posOfKw_some hf).2.1)⟩
    exact (finish_passKw a c slots b.kws_nd e).2 ⟨hk, List.contains_iff_mem.1 hcont⟩

/-- the `bound` list of `methodBind` -/
def boundOf (d : FnDef) (x : Dispatch) : List (Nat × Option Arg) :=
  (d.positional.zipIdx.map (fun (p, i) => (p.name, match x.passPos[i]? with
    | some v => some v
    | none => (x.passKw.find? (fun s => s.1 == p.name)).map (·.2)))) ++
  (d.kwOnly.map (fun p => (p.name, (x.passKw.find? (fun s => s.1 == p.name)).map (·.2))))

theorem methodBind_some (d : FnDef) (x : Dispatch) (b : List (Nat × Option Arg))
    (h : methodBind d x = some b) :
    x.passPos.length ≤ d.positional.length ∧ b = boundOf d x ∧
    d.params.any (fun p => p.required && match (boundOf d x).find? (fun b => b.1 == p.name) with
      | some (_, some _) => false | _ => true) = false := by
  revert h
  unfold methodBind
  refine ite_of (P := fun r => r = some b → _) (fun _ h => nomatch h) fun h1 =>
    ite_of (P := fun r => r = some b → _) (fun _ h => nomatch h) fun _ =>
    ite_of (P := fun r => r = some b → _) (fun _ h => nomatch h) fun hm h => ?_
  exact ⟨Nat.le_of_not_gt h1, (Option.some.inj h).symm, Bool.eq_false_iff.2 hm⟩

theorem boundOf_nodup (d : FnDef) (x : Dispatch) (hnd : (d.params.map (·.name)).Nodup) : Distinct (boundOf d x) := by
  have hnames : (boundOf d x).map (·.1) = (d.positional ++ d.kwOnly).map (·.name) := by
    unfold boundOf
    rw [List.map_append, List.map_append, List.map_map, List.map_map]
    congr 1
    conv => rhs; rw [← List.zipIdx_map_fst 0 d.positional, List.map_map]
    rfl
  have hperm : List.Perm (d.positional ++ d.kwOnly) d.params := by
    have hk : d.kwOnly = d.params.filter (fun p => !(p.kind != .kwOnly)) :=
      List.filter_congr fun p _ => by simp [bne]
    rw [hk]
    exact List.filter_append_perm _ _
  exact List.pairwise_map.1 (hnames ▸ ((hperm.map _).nodup_iff).2 hnd)

/-- the selected method binds what was forwarded by its own parameter names; every other parameter is left to
    that method's own default (`none`) — never another method's default or a placeholder.

    `hnd` (a Python `def` cannot declare two parameters of the same name — it is a SyntaxError) is needed: with
    `params := [p, p]`, `p` required and named `1`, `passPos := [v]`, `passKw := []`, `methodBind` answers
    `[(1, some v), (1, none)]` (its requiredness check finds the first entry for both parameters), and no parameter
    named `1` is optional. -/
theorem C03_method_own_defaults (d : FnDef) (x : Dispatch) (b : List (Nat × Option Arg))
    (hnd : (d.params.map (·.name)).Nodup)
    (h : methodBind d x = some b) :
    ∀ e ∈ b, match e.2 with
      | some v => v ∈ x.passPos ∨ (e.1, v) ∈ x.passKw
      | none => ∃ p ∈ d.params, p.name = e.1 ∧ p.required = false := by
  obtain ⟨_, rfl, hmiss⟩ := methodBind_some d x b h
  have hpw := boundOf_nodup d x hnd
  -- an entry filled from the keywords: without a value, the requiredness check of `methodBind` found this entry
  have hk : ∀ p ∈ d.params, (p.name, (x.passKw.find? (fun s => s.1 == p.name)).map (·.2)) ∈ boundOf d x →
      match (x.passKw.find? (fun s => s.1 == p.name)).map (·.2) with
      | some v => v ∈ x.passPos ∨ (p.name, v) ∈ x.passKw
      | none => ∃ q ∈ d.params, q.name = p.name ∧ q.required = false := by
    intro p hp hmem
    cases hs : x.passKw.find? (fun s => s.1 == p.name) with
    | some s => exact .inr ((by simpa using List.find?_some hs : s.1 = p.name) ▸ List.mem_of_find?_eq_some hs)
    | none =>
      rw [hs] at hmem
      have := List.any_eq_false.1 hmiss p hp
      rw [(find?_fst_iff hpw p.name (p.name, none)).2 ⟨hmem, rfl⟩] at this
      exact ⟨p, hp, rfl, by simpa using this⟩
  intro e he
  have he0 := he
  unfold boundOf at he
  rcases List.mem_append.1 he with he | he
  · obtain ⟨⟨p, i⟩, hpi, rfl⟩ := List.mem_map.1 he
    have hp : p ∈ d.positional := by
      have := List.mem_map_of_mem (f := Prod.fst) hpi
      rwa [List.zipIdx_map_fst] at this
    dsimp only at he0 ⊢
    cases hpp : x.passPos[i]? with
    | some v => exact .inl (List.mem_of_getElem? hpp)
    | none => rw [hpp] at he0; exact hk p (List.mem_filter.1 hp).1 he0
  · obtain ⟨p, hpk, rfl⟩ := List.mem_map.1 he
    exact hk p (List.mem_filter.1 hpk).1 he0

end Ovld

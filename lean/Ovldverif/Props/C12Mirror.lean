import Ovldverif.Lemmas.Fuel
/-!
# C12 — mirror symmetry of `typeorder` on the fragment where the code is symmetric

Besides two hooks of different design facing each other (finding D3), `symFrag t1 t2` excludes two generics or two
`tuple[...]` one of which has no member, because `merge [] = less` is its own mirror image.  Outside it the real code
is not mirror-symmetric.

One round of `typeorder` (`tordStep`) is mirror-symmetric on the fragment whenever its recursive calls are
(`tordStep_mirror`); `tord_mirror` is the induction on the fuel.
-/
set_option autoImplicit false
namespace Ovld
open TOrd

namespace TOrd

theorem all_map_opp (p q : TOrd → Bool) (h : ∀ o, p o.opposite = q o) (os : List TOrd) :
    (os.map opposite).all p = os.all q := by
  induction os with
  | nil => rfl
  | cons a t ih => simp only [List.map_cons, List.all_cons, ih, h]

theorem all_isSame (os : List TOrd) : os.all isSame = (os.all isLS && os.all isMS) := by
  induction os with
  | nil => rfl
  | cons o os ih =>
    rw [List.all_cons, List.all_cons, List.all_cons, ih]
    cases o <;> simp only [isSame, isLS, isMS, Bool.true_and, Bool.false_and, Bool.and_false]

/-- `merge` commutes with `opposite` on NON-EMPTY lists (`merge [] = less` is not self-dual): `opposite` swaps the
    tests `isLS` / `isMS` and keeps `isSame`, which is their conjunction -/
theorem merge_opp (os : List TOrd) (hne : os.isEmpty = false) :
    merge (os.map opposite) = (merge os).opposite := by
  have h1 := all_map_opp isSame isSame (by intro o; cases o <;> rfl) os
  have h2 := all_map_opp isLS isMS (by intro o; cases o <;> rfl) os
  have h3 := all_map_opp isMS isLS (by intro o; cases o <;> rfl) os
  unfold merge
  rw [h1, h2, h3, List.isEmpty_map, hne, all_isSame]
  cases os.all isLS <;> cases os.all isMS <;> rfl

end TOrd

theorem depHook_mirror (to : Ty → Ty → TOrd) (sc : Ty → Ty → Bool) (s1 b1 s2 b2 : Ty)
    (hb1 : s1.bound? = some b1) (hb2 : s2.bound? = some b2)
    (hm : to b2 b1 = (to b1 b2).opposite) :
    depHook to sc s2 b2 s1 = (depHook to sc s1 b1 s2).opposite := by
  unfold depHook
  simp only [hb1, hb2, hm]
  have asym := Ty.depLt_asymm s1 s2
  generalize to b1 b2 = o
  cases hA : Ty.depLt s1 s2
  · cases hB : Ty.depLt s2 s1 <;> cases o <;> rfl
  · rw [asym hA]; cases o <;> rfl

variable (H : Hier)

section
variable {to : Ty → Ty → TOrd} {sc : Ty → Ty → Bool}
  (ih : ∀ a b, symFrag a b = true → to b a = (to a b).opposite)
include ih

theorem zipWithT_mirror : ∀ (as bs : List Ty), symFragL as bs = true →
    zipWithT to bs as = (zipWithT to as bs).map opposite
  | [], [] => by intro _; rfl
  | [], _ :: _ => by intro _; rfl
  | _ :: _, [] => by intro _; rfl
  | a :: as, b :: bs => by
    intro hs
    have hs := Bool.and_eq_true_iff.1 hs
    show to b a :: zipWithT to bs as = (to a b :: zipWithT to as bs).map opposite
    rw [List.map_cons, ih a b hs.1, zipWithT_mirror as bs hs.2]

/-- the two member-wise branches: `tuple[...]` against `tuple[...]`, the arguments of two generics -/
theorem merge_zip_mirror (as bs : List Ty) (hne : as.isEmpty = false) (hs : symFragL as bs = true) :
    (if bs.length == as.length then merge (zipWithT to bs as) else .none)
      = (if as.length == bs.length then merge (zipWithT to as bs) else .none).opposite := by
  by_cases hl : as.length = bs.length
  · have he : (zipWithT to as bs).isEmpty = false :=
      match as, bs, hne, hl with
      | _ :: _, _ :: _, _, _ => rfl
    rw [if_pos (beq_iff_eq.mpr hl), if_pos (beq_iff_eq.mpr hl.symm), zipWithT_mirror ih as bs hs, merge_opp _ he]
  · rw [if_neg (fun e => hl (beq_iff_eq.mp e)), if_neg (fun e => hl (beq_iff_eq.mp e).symm)]; rfl

/-- two hooks facing each other inside the fragment: two `tuple[...]`, or two `Literal` / `Dependent` -/
theorem hook_mirror (t1 t2 : Ty) (hs : symFrag t1 t2 = true)
    (h1 : t1.effHook t2 = true) (h2 : t2.effHook t1 = true) :
    ∃ r, hook to sc t1 t2 = some r ∧ hook to sc t2 t1 = some r.opposite := by
  cases t1 with
  | cls _ | gen _ _ | strict _ _ | hasm _ _ | pred _ _ => cases h1
  | union _ | inter _ | exactly _ _ =>
    -- these answer every partner, so no partner in the fragment answers back: `symFrag` is its last arm here
    have hs : (!(true && t2.effHook _)) = true := hs
    rw [h2] at hs; cases hs
  | prod ps b1 =>
    cases t2 with
    | prod qs b2 =>
      change (!ps.isEmpty && !qs.isEmpty && symFragL ps qs && symFrag b1 b2) = true at hs
      simp only [Bool.and_eq_true, Bool.not_eq_true'] at hs
      exact ⟨_, rfl, congrArg some (merge_zip_mirror ih ps qs hs.1.1.1 hs.1.2)⟩
    | _ => cases h1
  | lit _ b1 | fdep _ _ b1 =>
    cases t2 with
    | lit _ b2 | fdep _ _ b2 =>
      exact ⟨_, rfl, congrArg some (depHook_mirror to sc _ b1 _ b2 rfl rfl (ih b1 b2 hs))⟩
    | union _ | inter _ | exactly _ _ => cases hs
    | _ => cases h2

/-- no hook on either side: only two generics need the fragment -/
theorem tstruct_mirror (t1 t2 : Ty) (hs : symFrag t1 t2 = true) :
    tstruct H to sc t2 t1 = (tstruct H to sc t1 t2).opposite := by
  induction t1, t2 using Ty.gen_cases with
  | gg o1 a1 o2 a2 =>
    change (!a1.isEmpty && !a2.isEmpty && symFragL a1 a2) = true at hs
    simp only [Bool.and_eq_true, Bool.not_eq_true'] at hs
    rw [tstruct_gen_gen H to sc o2 o1 hs.1.2 hs.1.1, tstruct_gen_gen H to sc o1 o2 hs.1.1 hs.1.2,
      ih (.cls o1) (.cls o2) rfl, merge_zip_mirror ih a1 a2 hs.1.1 hs.2]
    cases to (.cls o1) (.cls o2) <;> rfl
  | gl o1 a1 t2 g2 => rw [tstruct_gen_right H to sc g2]
  | gr t1 o2 a2 g1 => rw [tstruct_gen_right H to sc g1, opp_opp]
  | pp t1 t2 g1 g2 => rw [tstruct_plain H to sc g1 g2, tstruct_plain H to sc g2 g1]; exact ofSub_comm _ _

theorem tordStep_mirror (t1 t2 : Ty) (hs : symFrag t1 t2 = true) :
    tordStep H to sc t2 t1 = (tordStep H to sc t1 t2).opposite := by
  unfold tordStep
  rw [Ty.beq_comm t2 t1]
  split
  · rfl
  cases h1 : t1.effHook t2 <;> cases h2 : t2.effHook t1
  · rw [hook_none_of_not_eff h1, hook_none_of_not_eff h2]
    exact tstruct_mirror H ih t1 t2 hs
  -- a hook on one side only: the round itself takes the mirror image, at `typeorder` this is `C12_mirror_one_hook`
  · obtain ⟨r, hr⟩ := hook_some_of_eff to sc h2
    rw [hook_none_of_not_eff h1, hr, opp_opp]
  · obtain ⟨r, hr⟩ := hook_some_of_eff to sc h1
    rw [hook_none_of_not_eff h2, hr]
  · obtain ⟨r, hr1, hr2⟩ := hook_mirror ih t1 t2 hs h1 h2
    rw [hr1, hr2]

end

theorem tord_mirror : ∀ (f : Nat) (t1 t2 : Ty), symFrag t1 t2 = true →
    tord H f t2 t1 = (tord H f t1 t2).opposite := by
  intro f
  induction f with
  | zero => intro t1 t2 _; rfl
  | succ f ih => rw [tord_succ]; exact tordStep_mirror H ih

/-- **mirror symmetry**: on the fragment, comparing in the other direction gives the mirror image -/
theorem C12_mirror_partial (anti : H.Antisym) (t1 t2 : Ty) (h : symFrag t1 t2 = true) :
    typeorder H t2 t1 = (typeorder H t1 t2).opposite := by
  have _ := anti  -- not needed: `symFrag` demands non-empty argument lists on generic/generic pairs
  unfold typeorder
  rw [Nat.add_comm t2.size t1.size]
  exact tord_mirror H _ t1 t2 h

end Ovld

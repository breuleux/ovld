import Ovldverif.Model.Normalize
import Ovldverif.Lemmas.Fuel
/-!
# C15 — equivalent spellings of an annotation dispatch identically

Spellings that `normalize` maps to the *same* normal form dispatch identically because everything downstream
(signatures, the table, the order) only sees the normal form.  Reorderings (members of a union, values of a
Literal) give normal forms that differ in order only; for those the theorems show that what they accept and how
they compare with classes is unchanged.
-/
set_option autoImplicit false
namespace Ovld.Norm
open Ovld

/-- `typing.Union[...]` (and `Optional`), `A | B` and the tuple `(A, B)` have one normal form -/
theorem C15_union_spellings (env : Env) (f : Nat) (as : List Ann) :
    normalize env f (.unionT as) = normalize env f (.pipe as) ∧
    normalize env f (.pipe as) = normalize env f (.tup as) := by
  cases f <;> exact ⟨rfl, rfl⟩

/-- a missing annotation, `typing.Any` and `object` -/
theorem C15_missing_any_object (env : Env) (f : Nat) :
    normalize env f .missing = normalize env f .any ∧ normalize env f .any = normalize env f (.cls 0) := by
  cases f <;> exact ⟨rfl, rfl⟩

/-- `Annotated[A, ...]` and `A`, for every `A` (including `Any`, bare `type`, strings, unions) -/
theorem C15_annotated (env : Env) (f : Nat) (a : Ann) :
    normalize env (f + 1) (.annotated a) = normalize env f a :=
  rfl

/-! The two arms of `normalize` that look something up (`rfl`: `rw [normalize]` derives its equation lemmas first). -/
theorem normalize_name (env : Env) (f : Nat) (s : String) :
    normalize env (f + 1) (.name s) =
      match env.globals s with | some a => normalize env f a | none => .error .nameError := rfl
theorem normalize_gen (env : Env) (f o : Nat) (as : List Ann) :
    normalize env (f + 1) (.gen o as) = match env.handler o with
      | none => .error .noHandler | some h => (mapE (normalize env f) as).map (fun ms => .fast h ms o) := rfl

/-- a string annotation and the type it names -/
theorem C15_string (env : Env) (f : Nat) (s : String) (a : Ann) (h : env.globals s = some a) :
    normalize env (f + 1) (.name s) = normalize env f a := by
  rw [normalize_name, h]

theorem mapE_mono {α β ε : Type} {F G : α → Except ε β} (h : ∀ a y, F a = .ok y → G a = .ok y)
    (l : List α) (ys : List β) (e : mapE F l = .ok ys) : mapE G l = .ok ys := by
  fun_induction mapE F l generalizing ys with
  | case1 => exact e
  | case2 x xs e' hx => cases e
  | case3 x xs y hx e' hxs ih => cases e
  | case4 x xs y hx zs hxs ih => rw [mapE, h x y hx, ih zs hxs]; exact e

theorem mapE_error {α β ε : Type} {F : α → Except ε β} {e : ε} {l : List α} (h : mapE F l = .error e) :
    ∃ a ∈ l, F a = .error e := by
  fun_induction mapE F l with
  | case1 => cases h
  | case2 x xs e' hx => cases h; exact ⟨x, List.mem_cons_self, hx⟩
  | case3 x xs y hx e' hxs ih =>
    cases h
    obtain ⟨a, ha, he⟩ := ih hxs
    exact ⟨a, List.mem_cons_of_mem x ha, he⟩
  | case4 x xs y hx zs hxs ih => cases h

/-- more fuel never changes a result (so `C15_annotated` and `C15_string` are about one and the same normal form) -/
theorem normalize_mono (env : Env) (f : Nat) (a : Ann) (t : NTy) (h : normalize env f a = .ok t) :
    normalize env (f + 1) a = .ok t := by
  induction f generalizing a t with
  | zero => cases h
  | succ f ih =>
    have hl : ∀ (as : List Ann) (g : List NTy → NTy),
        (mapE (normalize env f) as).map g = .ok t → (mapE (normalize env (f + 1)) as).map g = .ok t := by
      intro as g hg
      cases hy : mapE (normalize env f) as with
      | error _ => rw [hy] at hg; cases hg
      | ok ys => rw [mapE_mono ih as ys hy]; rwa [hy] at hg
    -- both fuels are successors, so `normalize` unfolds by computation once the annotation's form is known
    cases a with
    | name s =>
      rw [normalize_name] at h ⊢
      cases hs : env.globals s with
      | none => simp [hs] at h
      | some a' => simp only [hs] at h ⊢; exact ih a' t h
    | annotated a' => exact ih a' t h
    | bareType | any | missing | cls _ | typeOf _ | literal _ => exact h
    | unionT as | pipe as | tup as | tupleG as => exact hl as _ h
    | gen o as =>
      rw [normalize_gen] at h ⊢
      cases ho : env.handler o with
      | none => simp [ho] at h
      | some hd => simp only [ho] at h ⊢; exact hl as _ h

theorem Ann.mem_sizeL {a : Ann} {as : List Ann} (h : a ∈ as) : a.size < Ann.sizeL as := by
  induction as with
  | nil => cases h
  | cons b bs ih =>
    show a.size < b.size + Ann.sizeL bs + 1
    rcases List.mem_cons.mp h with e | e
    · subst e; omega
    · have := ih e; omega

theorem normalize_good (env : Env) (hn : ∀ s, env.globals s = none) (hh : ∀ o, (env.handler o).isSome) :
    ∀ (f : Nat) (a : Ann), a.size ≤ f →
      (∃ t, normalize env f a = .ok t) ∨ normalize env f a = .error .nameError := by
  intro f
  induction f with
  | zero => intro a h; cases a <;> exact absurd h (Nat.not_succ_le_zero _)
  | succ f ih =>
    intro a h
    have hl : ∀ (as : List Ann) (g : List NTy → NTy), Ann.sizeL as ≤ f →
        (∃ t, (mapE (normalize env f) as).map g = .ok t) ∨
          (mapE (normalize env f) as).map g = .error .nameError := fun as g hs => by
      cases hm : mapE (normalize env f) as with
      | ok ys => exact Or.inl ⟨g ys, rfl⟩
      | error e =>
        obtain ⟨a, ha, he⟩ := mapE_error hm
        rcases ih a (by have := Ann.mem_sizeL ha; omega) with ⟨t, ht⟩ | hne
        · rw [he] at ht; cases ht
        · rw [he] at hne; cases hne; exact Or.inr rfl
    cases a with
    | name s => rw [normalize_name, hn s]; exact Or.inr rfl
    | annotated a' => exact ih a' (Nat.le_of_succ_le_succ h)
    | bareType | any | missing | cls _ | typeOf _ | literal _ => exact Or.inl ⟨_, rfl⟩
    | unionT as | pipe as | tup as | tupleG as => exact hl as _ (Nat.le_of_succ_le_succ h)
    | gen o as =>
      rw [normalize_gen]
      have := hh o
      cases ho : env.handler o with
      | none => simp [ho] at this
      | some hd => exact hl as _ (Nat.le_of_succ_le_succ h)

/-- the fuel `size + 1` never runs out when no string resolves (a string then gives `NameError`) -/
theorem normalize_total (env : Env) (a : Ann) (hn : ∀ s, env.globals s = none) (hh : ∀ o, (env.handler o).isSome) :
    ∃ t, normalize env (a.size + 1) a = .ok t ∨ normalize env (a.size + 1) a = .error .nameError := by
  rcases normalize_good env hn hh (a.size + 1) a (by omega) with ⟨t, ht⟩ | he
  · exact ⟨t, Or.inl ht⟩
  · exact ⟨default, Or.inr he⟩

/-- the default bound of a `Literal` is a class that every listed value is an instance of (every class being a
    subclass of `object`, class 0) -/
theorem defaultBound_sound (env : Env) (vals : List Nat) (htop : ∀ c, env.sub c 0 = true) (v : Nat)
    (hv : v ∈ vals) : ∃ b, defaultBound env vals = .cls b ∧ env.sub (env.valCls v) b = true := by
  unfold defaultBound
  have hm : env.valCls v ∈ vals.map env.valCls := List.mem_map.mpr ⟨v, hv, rfl⟩
  cases h : vals.map env.valCls with
  | nil => rw [h] at hm; cases hm
  | cons c0 cs =>
    rw [h] at hm
    simp only
    cases hf : (env.mro c0).find? (fun cand => (c0 :: cs).all (fun c => env.sub c cand)) with
    | none => exact ⟨0, rfl, htop _⟩
    | some b =>
      refine ⟨b, rfl, ?_⟩
      have hb := List.find?_some hf
      exact List.all_eq_true.mp hb _ hm

/-- a `Literal` accepts every listed value — whatever the types of the values and their order -/
theorem C15_literal_exact (H : Hier) (env : Env) (vals : List Nat) (vcls v : Nat) (f : Nat) (hf : 3 ≤ f)
    (hv : v ∈ vals) (hc : vcls = env.valCls v) (hs : env.sub = H.sub) (htop : ∀ c, H.sub c 0 = true) :
    NTy.accepts H vcls v f (.lit vals (defaultBound env vals)) = true := by
  obtain ⟨b, hb, hsub⟩ := defaultBound_sound env vals (by rw [hs]; exact htop) v hv
  -- fuel 2 would do: one round for the `Literal`, one for its class bound
  obtain ⟨g, rfl⟩ : ∃ g, f = g + 2 := ⟨f - 2, by omega⟩
  rw [hb]
  show (H.sub vcls b && vals.contains v) = true
  rw [hc, ← hs, hsub]
  simpa using hv

/-- … and nothing else -/
theorem C15_literal_only (H : Hier) (env : Env) (vals : List Nat) (vcls v : Nat) (f : Nat) (hv : v ∉ vals) :
    NTy.accepts H vcls v f (.lit vals (defaultBound env vals)) = false := by
  have hcn : vals.contains v = false := by simpa using hv
  cases f with
  | zero => rfl
  | succ g => exact Bool.and_eq_false_iff.mpr (.inr hcn)

/-- the values of a `Literal` in any order: the same values are accepted -/
theorem C15_literal_order (H : Hier) (env : Env) (vals vals' : List Nat) (hp : vals.Perm vals')
    (hs : env.sub = H.sub) (htop : ∀ c, H.sub c 0 = true) (vcls v : Nat) (f : Nat) (hf : 3 ≤ f)
    (hc : v ∈ vals → vcls = env.valCls v) :
    NTy.accepts H vcls v f (.lit vals (defaultBound env vals)) =
      NTy.accepts H vcls v f (.lit vals' (defaultBound env vals')) := by
  by_cases hv : v ∈ vals
  · rw [C15_literal_exact H env vals vcls v f hf hv (hc hv) hs htop,
      C15_literal_exact H env vals' vcls v f hf (hp.mem_iff.mp hv) (hc hv) hs htop]
  · rw [C15_literal_only H env vals vcls v f hv,
      C15_literal_only H env vals' vcls v f (fun h => hv (hp.mem_iff.mpr h))]

/-- the members of a union in any order: the same values are accepted -/
theorem C15_union_order (H : Hier) (ms ms' : List NTy) (hp : ms.Perm ms') (vcls v f : Nat) :
    NTy.accepts H vcls v f (.union ms) = NTy.accepts H vcls v f (.union ms') := by
  cases f with
  | zero => rfl
  | succ f => exact hp.any_eq

/-- … the same classes are subtypes (applicability of a method annotated with the union) -/
theorem C15_union_order_subclass (H : Hier) (ts ts' : List Ty) (hp : ts.Perm ts') (c : Nat) :
    subclasscheck H (.cls c) (.union ts) = subclasscheck H (.cls c) (.union ts') := by
  rw [subclasscheck_union (t := .cls c) nofun, subclasscheck_union (t := .cls c) nofun]; exact hp.any_eq

theorem unionOrd_perm (l l' : List TOrd) (hp : l.Perm l') : unionOrd l = unionOrd l' := by
  unfold unionOrd
  have hf := hp.filter (fun x => !x.isNone)
  simp only [hf.isEmpty_eq, hf.any_eq]

/-- … and the union compares alike with every class (specificity) -/
theorem C15_union_order_typeorder (H : Hier) (ts ts' : List Ty) (hp : ts.Perm ts') (c : Nat) :
    typeorder H (.union ts) (.cls c) = typeorder H (.union ts') (.cls c) := by
  rw [typeorder_union (t := .cls c) nofun, typeorder_union (t := .cls c) nofun]
  exact unionOrd_perm _ _ (hp.map _)

end Ovld.Norm

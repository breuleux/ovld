import Ovldverif.Props.C01
import Ovldverif.Props.C11Comb
import Ovldverif.Lemmas.DepDispatch
/-!
# C01, value level — from "the generated condition holds" to "`isinstance` holds"

`C01_dependent_selected` stops at `conj W args k hd = .yes`.  Here the step to the documented meaning is taken: for
every slot for which a condition is emitted the argument is an instance (`isinstanceOf`) of the declared type.

A condition is emitted for the slots of the key whose declared type is value-dependent (`relevantSlots`,
`is_dependent`) and for no other slot; `conjGo` answers `raises` when the argument of such a slot is missing.  For
the other slots nothing is evaluated, not even the presence of the argument: the statement over *all* slots is
false (examples at the end).
-/
set_option autoImplicit false
namespace Ovld

/-- a true conjunction, slot by slot: for every slot `s` of the key whose declared type is value-dependent
    the argument `argAt args s` is present, and it is an instance of the declared type provided that
    * `htop`: its class is below `object` (the generated code omits the guard of a member bounded by `object`);
    * the declared type is `Guardable`;
    * the value is inside the bound of the declared type when the declared type has one at its top (the
      top-level code does not test the bound: the type-level stage of dispatch has). -/
theorem C01_conj_isinstance (W : DWorld) (args : List (Slot × DVal)) (k : List Slot) (hd : DHandler)
    (hc : conj W args k hd = .yes) (s : Slot) (hs : s ∈ k) (hdep : (dTyAt hd s).isDep = true) :
    ∃ v, argAt args s = some v ∧
      (W.H.sub v.cls 0 = true → Guardable W v (dTyAt hd s) →
        (∀ b, (dTyAt hd s).bound? = some b → isinstanceOf W b v = .yes) →
        isinstanceOf W (dTyAt hd s) v = .yes) := by
  obtain ⟨v, hv, hg⟩ := conjGo_yes hc s (List.mem_filter.mpr ⟨hs, hdep⟩)
  refine ⟨v, hv, fun htop g hb => ?_⟩
  -- the empty Union, whose code is empty, is not value-dependent: no condition is emitted for it
  rw [← C11_genCheck_guardable W v htop _ g (fun e => by rw [e] at hdep; cases hdep) hb]
  exact hg

/-- `C01_conj_isinstance` with the value named by the caller -/
theorem C01_conj_isinstance_at (W : DWorld) (args : List (Slot × DVal)) (k : List Slot) (hd : DHandler)
    (hc : conj W args k hd = .yes) (s : Slot) (hs : s ∈ k) (hdep : (dTyAt hd s).isDep = true)
    (v : DVal) (hv : argAt args s = some v) (htop : W.H.sub v.cls 0 = true)
    (g : Guardable W v (dTyAt hd s))
    (hb : ∀ b, (dTyAt hd s).bound? = some b → isinstanceOf W b v = .yes) :
    isinstanceOf W (dTyAt hd s) v = .yes := by
  obtain ⟨v', hv', h⟩ := C01_conj_isinstance W args k hd hc s hs hdep
  rw [hv] at hv'
  cases Option.some.inj hv'
  exact h htop g hb

/-- a dependent dispatcher that evaluates conditions (first-match or counting body) only selects a handler
    each of whose value-dependent declared types accepts (`isinstance`) the value it is given — under the
    hypotheses of `C01_conj_isinstance` for that slot and value -/
theorem C01_dependent_isinstance (W : DWorld) (k : List Slot) (hs : List DHandler) (args : List (Slot × DVal))
    (h : Nat) (hsel : dispatch W k hs args = .handler h)
    (hnk : ∀ s t, strategy W k hs ≠ .keyed s t) :
    ∃ hd ∈ hs, hd.1 = h ∧
      ∀ s ∈ k, (dTyAt hd s).isDep = true →
        ∃ v, argAt args s = some v ∧
          (W.H.sub v.cls 0 = true → Guardable W v (dTyAt hd s) →
            (∀ b, (dTyAt hd s).bound? = some b → isinstanceOf W b v = .yes) →
            isinstanceOf W (dTyAt hd s) v = .yes) := by
  obtain ⟨hd, hm, hid, hc⟩ := C01_dependent_selected W k hs args h hsel hnk
  exact ⟨hd, hm, hid, fun s hsk hdep => C01_conj_isinstance W args k hd hc s hsk hdep⟩

/-- the lookup-table body: the selected handler declares a `Literal` at the key slot, the argument's value
    is one of its values, and — inside the Literal's bound — the argument is an instance of it -/
theorem C01_keyed_isinstance (W : DWorld) (k : List Slot) (hs : List DHandler) (args : List (Slot × DVal))
    (h : Nat) (s : Slot) (table : List (Nat × Nat)) (hst : strategy W k hs = .keyed s table)
    (hsel : dispatch W k hs args = .handler h) :
    ∃ hd ∈ hs, hd.1 = h ∧ s ∈ k ∧
      ∃ v ks b, argAt args s = some v ∧ dTyAt hd s = .lit ks b ∧ v.eq ∈ ks ∧
        (isinstanceOf W b v = .yes → isinstanceOf W (dTyAt hd s) v = .yes) := by
  obtain ⟨v, hv, hmem⟩ := C01_dependent_keyed W k hs args h s table hst hsel
  have hspec := strategy_spec W k hs
  rw [hst] at hspec
  obtain ⟨_, hsk, _, rfl⟩ := hspec
  obtain ⟨hd, hm, hkey, hid⟩ := (mem_pairsAt hs s (v.eq, h)).mp hmem
  obtain ⟨ks, b, ht, hin⟩ := mem_keysOf.mp hkey
  refine ⟨hd, hm, hid.symm, hsk, v, ks, b, hv, ht, hin, fun hb => ?_⟩
  rw [ht, isinstanceOf_lit, hb]
  exact (Tri.ofBool_eq_yes _).mpr (List.contains_iff_mem.mpr hin)

/-! ## the hypotheses are satisfiable, the conclusions are about a dispatcher that does select -/

/-- classes `0` (`object`), `1` (`int`), `2` (`str`), every class below `object`; user condition `3` holds for
    the value of identity `1` only -/
def depW : DWorld :=
  { H := { sub := fun a b => a == b || b == 0, hasAttr := fun _ _ => false, pred := fun _ _ => false },
    metaOf := fun _ => 0,
    chk := fun fn _ vid => if fn == 3 && vid == 1 then .yes else .no }

/-- `f(x: Literal[7])` (a Literal of class 1) -/
def hLit : DHandler := (10, [(.pos 0, .lit [7] (.cls 1))])
/-- `f(x: Dependent[int, cond3] | str)` -/
def hUni : DHandler := (20, [(.pos 0, .union [.fdep 3 [] (.cls 1), .cls 2])])

/-- an `int` on which condition 3 holds and which is not `7` -/
def vCond : DVal := .mk 1 1 8 .plain []
/-- the `int` `7`, condition 3 fails -/
def vSeven : DVal := .mk 2 1 7 .plain []
/-- a `str` -/
def vStr : DVal := .mk 3 2 9 .plain []

theorem guardable_hUni (v : DVal) : Guardable depW v (dTyAt hUni (.pos 0)) := by
  show Guardable depW v (.union [.fdep 3 [] (.cls 1), .cls 2])
  simp only [Guardable.union_iff, List.forall_mem_cons, List.not_mem_nil, false_imp_iff, implies_true, and_true]
  exact ⟨.fdep _ _ _ (.cls 1) rfl, .cls 2⟩

-- two handlers, two kinds of type object at the slot: the counting body; it selects
example : (∀ s t, strategy depW [.pos 0] [hLit, hUni] ≠ .keyed s t) ∧
    dispatch depW [.pos 0] [hLit, hUni] [(.pos 0, vCond)] = .handler 20 ∧
    dispatch depW [.pos 0] [hLit, hUni] [(.pos 0, vStr)] = .handler 20 ∧
    dispatch depW [.pos 0] [hLit, hUni] [(.pos 0, vSeven)] = .handler 10 := by
  exact ⟨fun s t e => (nomatch (show Strategy.counting = _ from e)), by decide +kernel, by decide +kernel,
    by decide +kernel⟩

-- both declared types are value-dependent: a condition is emitted for slot 0 of either handler
example : (dTyAt hLit (.pos 0)).isDep = true ∧ (dTyAt hUni (.pos 0)).isDep = true := by decide

-- the hypotheses of `C01_dependent_isinstance` for the selected handler `hUni` and the value it is given
example : depW.H.sub vCond.cls 0 = true ∧ Guardable depW vCond (dTyAt hUni (.pos 0)) ∧
    (∀ b, (dTyAt hUni (.pos 0)).bound? = some b → isinstanceOf depW b vCond = .yes) :=
  ⟨by decide, guardable_hUni _, nofun⟩

-- ... and for `hLit` on `7` (here the bound hypothesis is not vacuous: `7` is an `int`)
example : depW.H.sub vSeven.cls 0 = true ∧ Guardable depW vSeven (dTyAt hLit (.pos 0)) ∧
    (dTyAt hLit (.pos 0)).bound? = some (.cls 1) ∧
    (∀ b, (dTyAt hLit (.pos 0)).bound? = some b → isinstanceOf depW b vSeven = .yes) := by
  refine ⟨by decide, .lit _ _ (.cls 1) rfl, rfl, fun b hb => ?_⟩
  cases Option.some.inj hb
  decide

/-- `C01_dependent_isinstance` applied, all hypotheses discharged: whatever handler the dispatcher selects for
    `vCond` / `vSeven` accepts it at every value-dependent slot -/
example (a : DVal) (ha : a = vCond ∨ a = vSeven) (h : Nat)
    (hsel : dispatch depW [.pos 0] [hLit, hUni] [(.pos 0, a)] = .handler h) :
    ∃ hd ∈ [hLit, hUni], hd.1 = h ∧ ∀ s ∈ [Slot.pos 0], (dTyAt hd s).isDep = true →
      ∃ v, argAt [(.pos 0, a)] s = some v ∧ isinstanceOf depW (dTyAt hd s) v = .yes := by
  obtain ⟨hd, hm, hid, hall⟩ := C01_dependent_isinstance depW _ _ _ h hsel
    fun s t e => nomatch (show Strategy.counting = _ from e)
  refine ⟨hd, hm, hid, fun s hs hdep => ?_⟩
  obtain ⟨v, hv, himp⟩ := hall s hs hdep
  cases List.mem_singleton.mp hs
  cases (Option.some.inj hv : a = v)
  refine ⟨a, rfl, ?_⟩
  have htop : depW.H.sub a.cls 0 = true := by rcases ha with rfl | rfl <;> decide
  have hin : isinstanceOf depW (.cls 1) a = .yes := by rcases ha with rfl | rfl <;> decide
  simp only [List.mem_cons, List.not_mem_nil, or_false] at hm
  rcases hm with rfl | rfl
  · exact himp htop (.lit _ _ (.cls 1) rfl) fun b hb => by cases hb; exact hin
  · exact himp htop (guardable_hUni _) nofun

-- the conclusion, computed directly
example : isinstanceOf depW (dTyAt hUni (.pos 0)) vCond = .yes ∧
    isinstanceOf depW (dTyAt hUni (.pos 0)) vStr = .yes ∧
    isinstanceOf depW (dTyAt hLit (.pos 0)) vSeven = .yes := by decide +kernel

/-! ## the restrictions are real -/

/-- `f(x: str, y: Literal[7])` -/
def hMixed : DHandler := (30, [(.pos 0, .cls 2), (.pos 1, .lit [7] (.cls 1))])

-- only value-dependent slots get a condition: slot 0 declares `str`, the argument is an `int`; the conjunction
-- is true, `isinstance` is false (the type-level stage is what excludes this handler for such a call)
example : relevantSlots [.pos 0, .pos 1] hMixed = [.pos 1] ∧
    conj depW [(.pos 0, vCond), (.pos 1, vSeven)] [.pos 0, .pos 1] hMixed = .yes ∧
    dispatch depW [.pos 0, .pos 1] [hMixed] [(.pos 0, vCond), (.pos 1, vSeven)] = .handler 30 ∧
    isinstanceOf depW (dTyAt hMixed (.pos 0)) vCond = .no := by decide +kernel

-- a missing argument: at a slot without a condition it goes unnoticed, at a value-dependent slot the
-- conjunction raises
example : conj depW [(.pos 1, vSeven)] [.pos 0, .pos 1] hMixed = .yes ∧
    conj depW [(.pos 0, vStr)] [.pos 0, .pos 1] hMixed = .raises := by decide +kernel

/-- `f(x: Literal[7])` for a Literal of class `str` (bound 2) -/
def hLitStr : DHandler := (40, [(.pos 0, .lit [7] (.cls 2))])

-- the bound hypothesis: the top-level code of a Literal does not test the bound; for a value outside it
-- (an `int` equal to the `str`-bounded literal's value) the dispatcher selects, `isinstance` is false
example : (dTyAt hLitStr (.pos 0)).isDep = true ∧ Guardable depW vSeven (dTyAt hLitStr (.pos 0)) ∧
    depW.H.sub vSeven.cls 0 = true ∧
    conj depW [(.pos 0, vSeven)] [.pos 0] hLitStr = .yes ∧
    dispatch depW [.pos 0] [hLitStr] [(.pos 0, vSeven)] = .handler 40 ∧
    isinstanceOf depW (.cls 2) vSeven = .no ∧
    isinstanceOf depW (dTyAt hLitStr (.pos 0)) vSeven = .no := by
  refine ⟨by decide, .lit _ _ (.cls 2) rfl, by decide, by decide, by decide, by decide, by decide⟩

/-- `f(x: Literal[7] | str)` where the Literal's bound is itself a Literal of class `str` -/
def hNested : DHandler := (50, [(.pos 0, .union [.lit [7] (.lit [7] (.cls 2)), .cls 2])])

-- `Guardable`: a member whose bound is value-dependent is guarded by the bound's code *without* the bound's
-- own guard; the dispatcher selects, `isinstance` is false (no bound at the top: that hypothesis is vacuous)
example : (dTyAt hNested (.pos 0)).isDep = true ∧ (dTyAt hNested (.pos 0)).bound? = none ∧
    conj depW [(.pos 0, vSeven)] [.pos 0] hNested = .yes ∧
    dispatch depW [.pos 0] [hNested] [(.pos 0, vSeven)] = .handler 50 ∧
    isinstanceOf depW (dTyAt hNested (.pos 0)) vSeven = .no := by decide +kernel

-- `htop`: in a world where `int` is not below `object` the unguarded member bounded by `object` is accepted
example :
    let W : DWorld := { depW with H := { depW.H with sub := fun a b => a == b } }
    let hObj : DHandler := (60, [(.pos 0, .union [.lit [7] (.cls 0), .cls 2])])
    conj W [(.pos 0, vSeven)] [.pos 0] hObj = .yes ∧
    isinstanceOf W (dTyAt hObj (.pos 0)) vSeven = .no := by decide +kernel

end Ovld

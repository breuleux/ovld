import Ovldverif.Lemmas.GraphOps
/-!
# C16 — variants and mixins compose without ever disturbing their parents

`Graph` (Model/Graph.lean) is the model of the graph of `Ovld` objects after the `fix:` commits for findings
D13 (transitive locking of every ancestor reached through an unlinked edge) and D14 (`add_mixins` rebuilds).
-/
set_option autoImplicit false
namespace Ovld

/-- is `a` an ancestor of `n` (reachable by following `mixins` upwards), with fuel -/
def Graph.derives (g : Graph) : Nat → Nat → Nat → Bool
  | 0, _, _ => false
  | f + 1, a, n => (g.get n).mixins.any (fun m => m == a || g.derives f a m)

def Graph.isAnc (g : Graph) (a n : Nat) : Bool := g.derives g.depth a n

/-- the operation is well-formed on `g`: node indices exist, mixing in never creates a cycle -/
def Graph.opOK (g : Graph) : GOp → Bool
  | .create ms _ => ms.all (fun m => m < g.nodes.length)
  | .addMixins n ms => n < g.nodes.length && ms.all (fun m => m < g.nodes.length && m != n && !g.isAnc n m)
  | .register n _ => n < g.nodes.length
  | .unregister n _ => n < g.nodes.length
  | .call n _ => n < g.nodes.length

/-- every operation of the sequence is well-formed where it is applied, and no build fails with a
    configuration error (inconsistent argument names are C18's subject) -/
def Graph.opsOK (cfg : Cfg) : Graph → List GOp → Bool
  | _, [] => true
  | g, op :: rest =>
    g.opOK op && (g.step cfg op).2 != some .configError && Graph.opsOK cfg (g.step cfg op).1 rest

/-- the table in service of every function that has been put to use was built from exactly the definitions
    that function has now: its ancestors' overlaid by its own (the bound on `n` follows from `compiled`) -/
def Graph.Consistent (g : Graph) : Prop :=
  ∀ n, n < g.nodes.length → (g.get n).compiled = true → (g.get n).built = g.defns g.depth n

theorem Graph.opOK_create {g : Graph} {ms : List Nat} {lb : Bool} :
    g.opOK (.create ms lb) = true ↔ ∀ m ∈ ms, m < g.len :=
  List.all_eq_true.trans (forall₂_congr fun _ _ => decide_eq_true_iff)

theorem Graph.opOK_addMixins {g : Graph} {n : Nat} {ms : List Nat} :
    g.opOK (.addMixins n ms) = true ↔ n < g.len ∧ ∀ m ∈ ms, (m < g.len ∧ m ≠ n) ∧ g.isAnc n m = false := by
  show (_ && List.all _ _) = true ↔ _   -- `opOK` of `.addMixins n ms`, by computation
  simp only [Bool.and_eq_true, List.all_eq_true, decide_eq_true_eq, bne_iff_ne, ne_eq, Bool.not_eq_true', Graph.len]

theorem Graph.opOK_register {g : Graph} {n : Nat} {d : Def} : g.opOK (.register n d) = true ↔ n < g.len :=
  decide_eq_true_iff

theorem Graph.opOK_unregister {g : Graph} {n id : Nat} : g.opOK (.unregister n id) = true ↔ n < g.len :=
  decide_eq_true_iff

theorem Graph.opOK_call {g : Graph} {n : Nat} {c : Call} : g.opOK (.call n c) = true ↔ n < g.len :=
  decide_eq_true_iff

theorem Graph.derives_eq (g : Graph) (f a n : Nat) : g.derives f a n = ancB g.mx f a n := by
  induction f generalizing n with
  | zero => rfl
  | succ f ih =>
    show (g.get n).mixins.any _ = (g.get n).mixins.any _
    congr 1; funext m; rw [ih]

theorem Graph.isAnc_iff {g : Graph} (hi : Inv g) (a n : Nat) : g.isAnc a n = true ↔ Anc g.mx a n := by
  obtain ⟨rk, hr⟩ := hi.ranked
  unfold Graph.isAnc
  rw [Graph.derives_eq]
  exact ancB_iff hr a n

theorem Graph.inv_step (cfg : Cfg) {g : Graph} (hi : Inv g) (op : GOp) (hok : g.opOK op = true)
    (hne : ((g.step cfg op).2 != some .configError) = true) : Inv (g.step cfg op).1 := by
  have hne' : (g.step cfg op).2 ≠ some .configError := bne_iff_ne.mp hne
  cases op with
  | create ms lb => exact hi.create ms lb (Graph.opOK_create.mp hok)
  | addMixins n ms =>
    obtain ⟨hn, hms⟩ := Graph.opOK_addMixins.mp hok
    refine hi.addMixins n hn ms (fun m hm => ⟨(hms m hm).1.1, (hms m hm).1.2, fun hanc => ?_⟩) hne'
    exact Bool.false_ne_true ((hms m hm).2.symm.trans ((Graph.isAnc_iff hi n m).mpr hanc))
  | register n d => exact hi.register n (Graph.opOK_register.mp hok) d hne'
  | unregister n id => exact hi.unregister n (Graph.opOK_unregister.mp hok) id hne'
  | call n c =>
    refine hi.call cfg n (Graph.opOK_call.mp hok) c (fun hh => hne' ?_)
    show some (g.call cfg n c).2.1 = some .configError
    rw [hh]

theorem Graph.inv_runOps (cfg : Cfg) (ops : List GOp) : ∀ (g : Graph), Inv g → Graph.opsOK cfg g ops = true →
    Inv (Graph.runOps cfg g ops) := by
  induction ops with
  | nil => intro g hi _; exact hi
  | cons op rest ih =>
    intro g hi hok
    obtain ⟨h12, h3⟩ := Bool.and_eq_true_iff.1 hok
    exact ih _ (Graph.inv_step cfg hi op (Bool.and_eq_true_iff.1 h12).1 (Bool.and_eq_true_iff.1 h12).2) h3

/-- **C16, main invariant**: after ANY sequence of create / copy / variant / add_mixins / register /
    unregister / call operations, with and without linkback, every function in use reflects the current
    definitions of everything it derives from: a modification of an ancestor was either refused ("locked") or
    has been propagated -/
theorem C16_consistent (cfg : Cfg) (ops : List GOp) (hok : Graph.opsOK cfg {} ops = true) :
    (Graph.runOps cfg {} ops).Consistent := by
  have hi := Graph.inv_runOps cfg ops {} Inv.empty hok
  intro n _ hc
  exact hi.cons n hc

/-- **isolation**: a registration on `n`, accepted or refused, changes the definitions of `n` and of the functions
    that derive from `n` only: parents, siblings and unrelated functions keep theirs; holds on arbitrary graphs
    (`hn` is not used) -/
theorem C16_isolation_register (g : Graph) (n : Nat) (d : Def) (m : Nat)
    (hn : n < g.nodes.length) (hm : m ≠ n) (hnot : g.isAnc n m = false) :
    (g.register n d).1.defns (g.register n d).1.depth m = g.defns g.depth m := by
  have _ := hn
  rw [Graph.register_eq]
  exact Graph.isolation_modify (Graph.setOwn_edit g n _) m hm ((Graph.derives_eq g _ n m).symm.trans hnot)

/-- a locked function refuses every modification -/
theorem C16_locked_refuses (g : Graph) (n : Nat) (d : Def) (h : (g.get n).locked = true) :
    g.register n d = (g, some .locked) ∧ g.unregister n d.d.id = (g, some .locked) ∧
    ∀ ms, g.addMixins n ms = (g, some .locked) := by
  exact ⟨(Graph.register_eq g n d).trans (Graph.modify_locked g n _ h),
    (Graph.unregister_eq g n _).trans (Graph.modify_locked g n _ h),
    fun ms => (Graph.addMixins_eq g n ms).trans (Graph.modify_locked g n _ h)⟩

end Ovld

import Ovldverif.Props.C08
import Ovldverif.Lemmas.ClassGraph
/-!
# C17 — overloaded methods in classes merge per class and inherit without leaking

`translate` (Model/ClassBody.lean) is what the class dict of the metaclass does, as operations on the graph of
overloaded functions; `effAll` (Spec/ClassSpec.lean) is the documented effective method set of every class.
-/
set_option autoImplicit false
namespace Ovld.ClassBody
open Ovld

def graphOf (cfg : Cfg) (ks : List ClassDecl) : Graph := Graph.runOps cfg {} (translate ks).ops

/-- every class refers to earlier classes only.  The proofs below do not use it: a base or MRO entry out of range reads
    as a class holding nothing, in `translate` and in `effAll` alike -/
def WF (ks : List ClassDecl) : Prop :=
  ∀ (i : Nat) (k : ClassDecl), ks[i]? = some k → (∀ b ∈ k.bases, b < i) ∧ (∀ c ∈ k.mro, c < i)

/-- **merge per class / inherit**: for every list of class statements and every class, the overloaded method the
    class ends up holding dispatches over exactly the documented effective method set, and a class holds a plain
    function exactly when the documentation says so (`hwf` is not used) -/
theorem C17_effective (cfg : Cfg) (ks : List ClassDecl) (hwf : WF ks) (i : Nat) (a : Attr)
    (h : (translate ks).attr[i]? = some a) :
    ∃ e, (effAll ks)[i]? = some e ∧
      match a with
      | .none => e.kind = .none
      | .plain d => e.kind = .plain ∧ e.fn = some d
      | .node n fl => e.kind = .ovld ∧ e.flagged = fl ∧
          (graphOf cfg ks).defns (graphOf cfg ks).depth n = e.defns := by
  have _ := hwf
  obtain ⟨_, _, hag, _, _⟩ := mainInv cfg ks
  obtain ⟨e, he, hr⟩ := hag.get i a h
  refine ⟨e, he, ?_⟩
  cases a with
  | none => exact hr
  | plain d => exact ⟨hr.1, hr.2.1⟩
  | node n fl => exact ⟨hr.1, hr.2.1, hr.2.2.2⟩

/-- **without leaking**: one more class statement leaves what every earlier class holds, and the definitions of
    every function that existed before it, exactly as they were (base classes and siblings keep their behaviour) -/
theorem C17_bases_untouched (cfg : Cfg) (ks : List ClassDecl) (k : ClassDecl) :
    (translate (ks ++ [k])).attr.take ks.length = (translate ks).attr ∧
    ∀ m, m < (translate ks).nn →
      (graphOf cfg (ks ++ [k])).defns (graphOf cfg (ks ++ [k])).depth m =
        (graphOf cfg ks).defns (graphOf cfg ks).depth m :=
  (MainInv.step cfg ks k (mainInv cfg ks)).2

/-- class statements never put a function to use: nothing is compiled or locked by them, and every operation
    they perform is accepted (`hwf` is not used) -/
theorem C17_ops_accepted (cfg : Cfg) (ks : List ClassDecl) (hwf : WF ks) :
    Graph.opsOK cfg {} (translate ks).ops = true ∧
    ∀ n, ((graphOf cfg ks).get n).locked = false ∧ ((graphOf cfg ks).get n).compiled = false := by
  have _ := hwf
  obtain ⟨_, hs, _⟩ := mainInv cfg ks
  obtain ⟨h1, _, h3, _⟩ := snap_graph cfg hs
  exact ⟨h3, fun n => ⟨(h1 n).2.1, (h1 n).1⟩⟩

/-- **calls on the bound method** (with C08): a call on the method a class holds — including every nested
    `recurse` / `call_next` — behaves like the same call on a brand-new function over the documented effective
    method set of that class (`hwf` is not used) -/
theorem C17_call (cfg : Cfg) (ks : List ClassDecl) (hwf : WF ks) (i n : Nat) (fl : Bool) (e : Eff)
    (h : (translate ks).attr[i]? = some (.node n fl)) (he : (effAll ks)[i]? = some e)
    (hd : DistinctHandlers (Fn.methsOf e.defns)) (c : Call) :
    ((graphOf cfg ks).call cfg n c).2.1 = Fn.outcome ((Fn.fresh e.defns).call cfg c) ∧
    ((graphOf cfg ks).call cfg n c).2.2.1 = Fn.trace ((Fn.fresh e.defns).call cfg c) := by
  have _ := hwf
  obtain ⟨a, hs, hag, _, _⟩ := mainInv cfg ks
  obtain ⟨_, rfl, h3, _⟩ := snap_graph cfg hs
  obtain ⟨e', he', hr⟩ := hag.get i _ h
  obtain rfl : e = e' := Option.some.inj (he.symm.trans he')
  have hdef : (graphOf cfg ks).defns (graphOf cfg ks).depth n = e.defns := hr.2.2.2
  rw [← hdef] at hd ⊢
  exact C08_call_as_fresh cfg (translate ks).ops h3 n hr.2.2.1 hd c

end Ovld.ClassBody

import Ovldverif.Props.C13
/-! # C12 — the specificity order on types is mirror-symmetric and matches subclassing -/
set_option autoImplicit false
namespace Ovld
open TOrd

variable (H : Hier)

theorem C12_refl (t : Ty) : typeorder H t t = .same := by
  rw [typeorder_eq, tordStep, Ty.beq_refl]; rfl

/-- on plain classes the order coincides with subclassing -/
theorem C12_cls (a b : Nat) :
    typeorder H (.cls a) (.cls b) = if a = b then .same else ofSub (H.sub a b) (H.sub b a) := by
  by_cases h : a = b
  · rw [h, C12_refl, if_pos rfl]
  · rw [typeorder_struct (fun e => h (Ty.cls.inj e)) rfl rfl, if_neg h]; rfl

theorem C12_cls_trans (wf : H.WF) (anti : H.Antisym) (a b c : Nat)
    (h1 : typeorder H (.cls a) (.cls b) = .less) (h2 : typeorder H (.cls b) (.cls c) = .less) :
    typeorder H (.cls a) (.cls c) = .less := by
  have _ := anti  -- not needed: `a = c` would already contradict `h2`
  rw [C12_cls] at *
  split at h1; · cases h1
  split at h2; · cases h2
  obtain ⟨ab, ba⟩ := ofSub_less.mp h1
  obtain ⟨bc, cb⟩ := ofSub_less.mp h2
  have ca : H.sub c a = false := by
    cases e : H.sub c a
    · rfl
    · rw [wf.trans c a b e ab] at cb; cases cb
  have ac : a ≠ c := fun e => by rw [← e, ab] at cb; cases cb
  rw [if_neg ac, ofSub_less.mpr ⟨wf.trans a b c ab bc, ca⟩]

theorem C12_cls_mirror (a b : Nat) :
    typeorder H (.cls b) (.cls a) = (typeorder H (.cls a) (.cls b)).opposite := by
  rw [C12_cls, C12_cls]
  by_cases h : a = b
  · subst h; simp [opposite]
  · have h' : b ≠ a := fun e => h e.symm
    simp only [h, h', if_false]; exact ofSub_comm _ _

/-- a parametrised generic is more specific than its origin -/
theorem C12_generic_origin (wf : H.WF) (o : Nat) (args : List Ty) :
    typeorder H (.gen o args) (.cls o) = .less := by
  have _ := wf  -- not needed
  rw [typeorder_gen_left rfl rfl, C12_refl]; rfl

/-- a type with an effective hook against a type without one: mirror images by construction
    (`Union`, `Intersection`, `Exactly`, `Literal`, `Dependent` against classes, generic aliases,
    `StrictSubclass`, `HasMethod`, `class_check` types and `tuple[...]`) -/
theorem C12_mirror_one_hook (t1 t2 : Ty) (h1 : t1.effHook t2 = true) (h2 : t2.effHook t1 = false) :
    typeorder H t2 t1 = (typeorder H t1 t2).opposite := by
  have hne : t1 ≠ t2 := by rintro rfl; rw [h1] at h2; cases h2
  obtain ⟨r, hr⟩ := hook_some_of_eff (typeorder H) (subclasscheck H) h1
  rw [typeorder_of_hook hne hr, typeorder_of_hook_right hne.symm h2 hr]

theorem Ty.union_inter_ne_of_mem {ts : List Ty} {t : Ty} (ht : t ∈ ts) : Ty.union ts ≠ t ∧ Ty.inter ts ≠ t := by
  have := Ty.mem_sizeL ht
  constructor <;> (rintro rfl; simp only [Ty.size] at this; omega)

/-- one member that compares `same` decides `Union.__type_order__` and `Intersection.__type_order__` -/
theorem unionOrd_interOrd_of_same {cmp : List TOrd} (h : same ∈ cmp) : unionOrd cmp = .more ∧ interOrd cmp = .less := by
  have hc : same ∈ cmp.filter (fun x => !x.isNone) := List.mem_filter.mpr ⟨h, rfl⟩
  have he : (cmp.filter (fun x => !x.isNone)).isEmpty = false := List.isEmpty_eq_false_iff_exists_mem.mpr ⟨_, hc⟩
  have hany : ∀ p : TOrd → Bool, p same = true → (cmp.filter (fun x => !x.isNone)).any p = true :=
    fun p hp => List.any_eq_true.mpr ⟨_, hc, hp⟩
  simp only [unionOrd, interOrd, he, hany isMS rfl, hany isLS rfl, Bool.false_eq_true, if_false, if_true, and_self]

/-- a union is more general than each of its members -/
theorem C12_union_member (ts : List Ty) (t : Ty) (ht : t ∈ ts) :
    typeorder H (.union ts) t = .more := by
  rw [typeorder_union (Ty.union_inter_ne_of_mem ht).1]
  exact (unionOrd_interOrd_of_same (cmp := ts.map (typeorder H · t)) (List.mem_map.mpr ⟨t, ht, C12_refl H t⟩)).1

/-- ... and each member without a hook of its own is more specific than the union -/
theorem C12_member_union (ts : List Ty) (t : Ty) (ht : t ∈ ts) (hh : t.effHook (.union ts) = false) :
    typeorder H t (.union ts) = .less := by
  rw [C12_mirror_one_hook H (.union ts) t rfl hh, C12_union_member H ts t ht]; rfl

/-- an intersection is more specific than each of its members -/
theorem C12_inter_member (ts : List Ty) (t : Ty) (ht : t ∈ ts) :
    typeorder H (.inter ts) t = .less := by
  rw [typeorder_inter (Ty.union_inter_ne_of_mem ht).2]
  exact (unionOrd_interOrd_of_same (cmp := ts.map (typeorder H · t)) (List.mem_map.mpr ⟨t, ht, C12_refl H t⟩)).2

/-- ... and each member without a hook of its own is more general than the intersection -/
theorem C12_member_inter (ts : List Ty) (t : Ty) (ht : t ∈ ts) (hh : t.effHook (.inter ts) = false) :
    typeorder H t (.inter ts) = .more := by
  rw [C12_mirror_one_hook H (.inter ts) t rfl hh, C12_inter_member H ts t ht]; rfl

theorem cond_lt_bound (t b : Ty) (hc : t.isCond = true) (hb : t.bound? = some b) (hbb : b.bound? = Option.none) :
    typeorder H t b = .less := by
  rw [typeorder_cond_nondep hc hb hbb, C13_refl]; rfl

/-- a `Literal[...]` is more specific than its bound (when the bound is not itself value-dependent) -/
theorem C12_lit_bound (ks : List Nat) (b : Ty) (hb : b.bound? = Option.none) :
    typeorder H (.lit ks b) b = .less :=
  cond_lt_bound H _ b rfl rfl hb

/-- a `Dependent[bound, ...]` / built-in value type is more specific than its bound -/
theorem C12_dep_bound (fn : Nat) (ps : List (Option Nat)) (b : Ty) (hb : b.bound? = Option.none) :
    typeorder H (.fdep fn ps b) b = .less :=
  cond_lt_bound H _ b rfl rfl hb

end Ovld

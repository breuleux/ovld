import Ovldverif.Props.C12
/-!
# C10 (order-level half) — where a value-dependent type sits in the specificity order

"A value-dependent method, when its condition holds, is preferred over methods declared on the bound
or its subclasses; two otherwise unordered dependent methods are ambiguous."

What `typeorder` answers for `Dependent[c, ...]` (`.fdep fn ps (.cls c)`) and `Literal[...]`
(`.lit keys (.cls c)`) against plain classes and against each other, for every hierarchy table.  With the ranking
theorems of C02 (a `.less` candidate wins, two `.none` candidates that both accept are an ambiguity) this gives
the documented behaviour.  Everything is read off two tables, `cond_vs_cls` and `cond_vs_cond`.
-/
set_option autoImplicit false
namespace Ovld
open TOrd

variable (H : Hier)

/-- `d` is the bound `c`, a subclass of it, or a superclass of it
    (`subclasscheck(d, c) or subclasscheck(c, d)`, the last test of `DependentType.__type_order__`) -/
def relatedCls (c d : Nat) : Bool := d == c || H.sub d c || H.sub c d

theorem cond_vs_cls (t : Ty) (c d : Nat) (hc : t.isCond = true) (hb : t.bound? = some (.cls c)) :
    typeorder H t (.cls d) = (if relatedCls H c d then .less else .none) ∧
    typeorder H (.cls d) t = (if relatedCls H c d then .more else .none) := by
  have hne : t ≠ .cls d := by rintro rfl; cases hc
  have h : typeorder H t (.cls d) = if relatedCls H c d then .less else .none := by
    rw [typeorder_cond_nondep hc hb rfl, subclasscheck_cls_cls, subclasscheck_cls_cls, relatedCls, BEq.comm (a := c)]
    cases d == c <;> cases H.sub d c <;> rfl
  refine ⟨h, ?_⟩
  rw [typeorder_of_hook_right hne.symm rfl (hook_cond (.cls d) hc hb), ← typeorder_cond hc hb hne, h]
  cases relatedCls H c d <;> rfl

/-- against another value-dependent type: the `then` branch -/
theorem cond_vs_cond (t1 t2 : Ty) (c1 c2 : Nat) (hc : t1.isCond = true)
    (hb1 : t1.bound? = some (.cls c1)) (hb2 : t2.bound? = some (.cls c2)) :
    typeorder H t1 t2 =
      if t1 = t2 then .same
      else if typeorder H (.cls c1) (.cls c2) = .same then
        (if Ty.depLt t1 t2 then .less else if Ty.depLt t2 t1 then .more else .none)
      else typeorder H (.cls c1) (.cls c2) := by
  by_cases e : t1 = t2
  · rw [e, C12_refl, if_pos rfl]
  · rw [if_neg e, typeorder_cond hc hb1 e]
    simp only [depHook, hb2]
    cases typeorder H (.cls c1) (.cls c2) <;> rfl

/-- `Dependent[c, ...]` and `Literal[...]` over `c` are LESS (more specific) than the plain class `d`
    whenever `d` is `c`, a subclass of `c` (`H.sub d c`) or a superclass of `c` (`H.sub c d`), and the
    mirror comparison answers MORE.  No hypothesis on `H`. -/
theorem C10_prefers_over_related_class (fn : Nat) (ps : List (Option Nat)) (keys : List Nat) (c d : Nat)
    (h : d = c ∨ H.sub d c = true ∨ H.sub c d = true) :
    typeorder H (.fdep fn ps (.cls c)) (.cls d) = .less ∧
    typeorder H (.cls d) (.fdep fn ps (.cls c)) = .more ∧
    typeorder H (.lit keys (.cls c)) (.cls d) = .less ∧
    typeorder H (.cls d) (.lit keys (.cls c)) = .more := by
  have hr : relatedCls H c d = true := by
    unfold relatedCls; rcases h with h | h | h <;> simp [h]
  have a := cond_vs_cls H (.fdep fn ps (.cls c)) c d rfl rfl
  have b := cond_vs_cls H (.lit keys (.cls c)) c d rfl rfl
  simp only [hr, if_true] at a b
  exact ⟨a.1, a.2, b.1, b.2⟩

/-- against a class that is neither a subclass nor a superclass of the bound: unordered, both ways.
    `d ≠ c` is needed because the code tests `t1 == t2` before `issubclass`; it follows from the two
    other hypotheses as soon as `issubclass` is reflexive (`C10_unrelated_class_refl`). -/
theorem C10_unrelated_class (fn : Nat) (ps : List (Option Nat)) (keys : List Nat) (c d : Nat)
    (hne : d ≠ c) (h1 : H.sub d c = false) (h2 : H.sub c d = false) :
    typeorder H (.fdep fn ps (.cls c)) (.cls d) = .none ∧
    typeorder H (.cls d) (.fdep fn ps (.cls c)) = .none ∧
    typeorder H (.lit keys (.cls c)) (.cls d) = .none ∧
    typeorder H (.cls d) (.lit keys (.cls c)) = .none := by
  have hr : relatedCls H c d = false := by unfold relatedCls; simp [hne, h1, h2]
  have a := cond_vs_cls H (.fdep fn ps (.cls c)) c d rfl rfl
  have b := cond_vs_cls H (.lit keys (.cls c)) c d rfl rfl
  simp only [hr] at a b
  exact ⟨a.1, a.2, b.1, b.2⟩

theorem C10_unrelated_class_refl (fn : Nat) (ps : List (Option Nat)) (keys : List Nat) (c d : Nat)
    (hrefl : H.sub c c = true) (h1 : H.sub d c = false) (h2 : H.sub c d = false) :
    typeorder H (.fdep fn ps (.cls c)) (.cls d) = .none ∧
    typeorder H (.cls d) (.fdep fn ps (.cls c)) = .none ∧
    typeorder H (.lit keys (.cls c)) (.cls d) = .none ∧
    typeorder H (.cls d) (.lit keys (.cls c)) = .none :=
  C10_unrelated_class H fn ps keys c d (fun e => by subst e; rw [hrefl] at h1; cases h1) h1 h2

/-- the two previous cases together: the comparison is exactly the relatedness test (so LESS / NONE are the only
    answers, and `.none` iff `d ≠ c` and the two `issubclass` tests fail) -/
theorem C10_class_exact (fn : Nat) (ps : List (Option Nat)) (c d : Nat) :
    typeorder H (.fdep fn ps (.cls c)) (.cls d) = (if relatedCls H c d then .less else .none) ∧
    typeorder H (.cls d) (.fdep fn ps (.cls c)) = (if relatedCls H c d then .more else .none) :=
  cond_vs_cls H _ c d rfl rfl

/-- exact: SAME iff the two types are equal (same `FuncDependentType` class and equal parameters),
    otherwise `FuncDependentType.__lt__` (`Ty.depLt`) decides, and when it is false both ways: NONE -/
theorem C10_two_conditions_same_bound (f1 f2 : Nat) (ps1 ps2 : List (Option Nat)) (c : Nat) :
    typeorder H (.fdep f1 ps1 (.cls c)) (.fdep f2 ps2 (.cls c)) =
      if f1 = f2 ∧ ps1 = ps2 then .same
      else if Ty.depLt (.fdep f1 ps1 (.cls c)) (.fdep f2 ps2 (.cls c)) then .less
      else if Ty.depLt (.fdep f2 ps2 (.cls c)) (.fdep f1 ps1 (.cls c)) then .more
      else .none := by
  rw [cond_vs_cond H _ _ c c rfl rfl rfl, C12_refl, if_pos rfl]
  simp only [Ty.fdep.injEq, and_true]

theorem cond_unordered (t1 t2 : Ty) (c : Nat) (hc1 : t1.isCond = true) (hc2 : t2.isCond = true)
    (hb1 : t1.bound? = some (.cls c)) (hb2 : t2.bound? = some (.cls c)) (hne : t1 ≠ t2)
    (d1 : Ty.depLt t1 t2 = false) (d2 : Ty.depLt t2 t1 = false) :
    typeorder H t1 t2 = .none ∧ typeorder H t2 t1 = .none := by
  rw [cond_vs_cond H t1 t2 c c hc1 hb1 hb2, cond_vs_cond H t2 t1 c c hc2 hb2 hb1, if_neg hne, if_neg hne.symm,
    C12_refl, d1, d2]
  exact ⟨rfl, rfl⟩

theorem fdep_ne {f1 f2 : Nat} {ps1 ps2 : List (Option Nat)} (b : Ty) (hne : f1 ≠ f2 ∨ ps1 ≠ ps2) :
    Ty.fdep f1 ps1 b ≠ Ty.fdep f2 ps2 b :=
  fun e => hne.elim (· (Ty.fdep.inj e).1) (· (Ty.fdep.inj e).2.1)

/-- the common case: two different user conditions, no `Any` parameter on either side: unordered both
    ways.  By C02 (ranking) two such methods that both accept the arguments, with nothing else to
    separate them, are reported as an ambiguity. -/
theorem C10_two_conditions_ambiguous (f1 f2 : Nat) (ps1 ps2 : List (Option Nat)) (c : Nat)
    (hne : f1 ≠ f2 ∨ ps1 ≠ ps2)
    (h1 : ps1.all Option.isSome = true) (h2 : ps2.all Option.isSome = true) :
    typeorder H (.fdep f1 ps1 (.cls c)) (.fdep f2 ps2 (.cls c)) = .none ∧
    typeorder H (.fdep f2 ps2 (.cls c)) (.fdep f1 ps1 (.cls c)) = .none :=
  cond_unordered H _ _ c rfl rfl rfl rfl (fdep_ne _ hne)
    (Ty.depLt_false_of_noAny _ _ _ _ h2) (Ty.depLt_false_of_noAny _ _ _ _ h1)

/-- likewise when the same positions are `Any` on both sides (e.g. two different `Regexp[...]`,
    or the same condition class with different concrete parameters) -/
theorem C10_two_conditions_same_mask (f1 f2 : Nat) (ps1 ps2 : List (Option Nat)) (c : Nat)
    (hne : f1 ≠ f2 ∨ ps1 ≠ ps2)
    (hm : ps1.map Option.isNone = ps2.map Option.isNone) :
    typeorder H (.fdep f1 ps1 (.cls c)) (.fdep f2 ps2 (.cls c)) = .none ∧
    typeorder H (.fdep f2 ps2 (.cls c)) (.fdep f1 ps1 (.cls c)) = .none :=
  cond_unordered H _ _ c rfl rfl rfl rfl (fdep_ne _ hne)
    (Ty.depLt_false_of_same_mask hm) (Ty.depLt_false_of_same_mask hm.symm)

/-- two `Literal[...]` over the same bound: SAME iff the value sets are equal, else unordered
    (`DependentType.__lt__` is constantly `False`; overlapping literals are *not* ordered by
    inclusion) -/
theorem C10_two_literals_same_bound (k1 k2 : List Nat) (c : Nat) :
    typeorder H (.lit k1 (.cls c)) (.lit k2 (.cls c)) = if k1 = k2 then .same else .none := by
  by_cases h : k1 = k2
  · rw [h, C12_refl, if_pos rfl]
  · rw [if_neg h, (cond_unordered H _ _ c rfl rfl rfl rfl (fun e => h (Ty.lit.inj e).1) rfl rfl).1]

/-- a `Literal[...]` and a `Dependent[c, ...]` over the same bound are unordered both ways -/
theorem C10_literal_vs_condition (ks : List Nat) (fn : Nat) (ps : List (Option Nat)) (c : Nat) :
    typeorder H (.lit ks (.cls c)) (.fdep fn ps (.cls c)) = .none ∧
    typeorder H (.fdep fn ps (.cls c)) (.lit ks (.cls c)) = .none :=
  cond_unordered H _ _ c rfl rfl rfl rfl nofun rfl (Ty.depLt_needs_any (by simp [Ty.anyMask]))

theorem typeorder_of_bounds (t1 t2 : Ty) (c1 c2 : Nat) (hc : t1.isCond = true)
    (hb1 : t1.bound? = some (.cls c1)) (hb2 : t2.bound? = some (.cls c2))
    (hs : typeorder H (.cls c1) (.cls c2) ≠ .same) :
    typeorder H t1 t2 = typeorder H (.cls c1) (.cls c2) := by
  have e : t1 ≠ t2 := by
    rintro rfl; rw [hb1] at hb2; cases hb2
    exact hs (C12_refl H _)
  rw [cond_vs_cond H t1 t2 c1 c2 hc hb1 hb2]
  simp [e, hs]

theorem C10_bounds_decide (f1 f2 : Nat) (ps1 ps2 : List (Option Nat)) (k1 k2 : List Nat) (c1 c2 : Nat)
    (hs : typeorder H (.cls c1) (.cls c2) ≠ .same) :
    typeorder H (.fdep f1 ps1 (.cls c1)) (.fdep f2 ps2 (.cls c2)) = typeorder H (.cls c1) (.cls c2) ∧
    typeorder H (.lit k1 (.cls c1)) (.lit k2 (.cls c2)) = typeorder H (.cls c1) (.cls c2) ∧
    typeorder H (.fdep f1 ps1 (.cls c1)) (.lit k2 (.cls c2)) = typeorder H (.cls c1) (.cls c2) ∧
    typeorder H (.lit k1 (.cls c1)) (.fdep f2 ps2 (.cls c2)) = typeorder H (.cls c1) (.cls c2) :=
  ⟨typeorder_of_bounds H (.fdep f1 ps1 (.cls c1)) (.fdep f2 ps2 (.cls c2)) c1 c2 rfl rfl rfl hs,
   typeorder_of_bounds H (.lit k1 (.cls c1)) (.lit k2 (.cls c2)) c1 c2 rfl rfl rfl hs,
   typeorder_of_bounds H (.fdep f1 ps1 (.cls c1)) (.lit k2 (.cls c2)) c1 c2 rfl rfl rfl hs,
   typeorder_of_bounds H (.lit k1 (.cls c1)) (.fdep f2 ps2 (.cls c2)) c1 c2 rfl rfl rfl hs⟩

/-- with antisymmetric `issubclass`, `c1 ≠ c2` is enough, and the answer is read off the table -/
theorem C10_bounds_decide_antisym (anti : H.Antisym) (f1 f2 : Nat) (ps1 ps2 : List (Option Nat))
    (c1 c2 : Nat) (hne : c1 ≠ c2) :
    typeorder H (.fdep f1 ps1 (.cls c1)) (.fdep f2 ps2 (.cls c2)) = ofSub (H.sub c1 c2) (H.sub c2 c1) := by
  have hc : typeorder H (.cls c1) (.cls c2) = ofSub (H.sub c1 c2) (H.sub c2 c1) := by
    rw [C12_cls]; simp [hne]
  have hs : typeorder H (.cls c1) (.cls c2) ≠ .same := by
    rw [hc]; exact fun h => hne (anti c1 c2 (ofSub_same.mp h).1 (ofSub_same.mp h).2)
  rw [(C10_bounds_decide H f1 f2 ps1 ps2 [] [] c1 c2 hs).1, hc]

/-- what happens when the hypothesis of `C10_bounds_decide` fails with `c1 ≠ c2` (two distinct classes
    that are subclasses of each other): the bounds count as the same and the conditions decide, as in
    `C10_two_conditions_same_bound` -/
theorem C10_bounds_same (f1 f2 : Nat) (ps1 ps2 : List (Option Nat)) (c1 c2 : Nat) (hne : c1 ≠ c2)
    (hs : typeorder H (.cls c1) (.cls c2) = .same) :
    typeorder H (.fdep f1 ps1 (.cls c1)) (.fdep f2 ps2 (.cls c2)) =
      if Ty.depLt (.fdep f1 ps1 (.cls c1)) (.fdep f2 ps2 (.cls c2)) then .less
      else if Ty.depLt (.fdep f2 ps2 (.cls c2)) (.fdep f1 ps1 (.cls c1)) then .more
      else .none := by
  rw [cond_vs_cond H _ _ c1 c2 rfl rfl rfl]
  have e : Ty.fdep f1 ps1 (.cls c1) ≠ Ty.fdep f2 ps2 (.cls c2) := fun e => hne (Ty.cls.inj (Ty.fdep.inj e).2.2)
  simp [e, hs]

/-! Classes of the instances below: 0 `object`, 1 `A`, 2 `B(A)`, 3 `C` (unrelated to `A`), 4/5 two distinct classes
that are subclasses of each other (structurally identical protocols).  Several cases stand twice: once through the
theorem, once by evaluating the model. -/

def c10H : Hier where
  sub a b := a == b || b == 0 || (a == 2 && b == 1) || (a == 4 && b == 5) || (a == 5 && b == 4)
  hasAttr _ _ := false
  pred _ _ := false

-- `Dependent[A, f(x)]` against `A`, its subclass `B`, its superclass `object`
example : typeorder c10H (.fdep 7 [some 1] (.cls 1)) (.cls 1) = .less :=
  (C10_prefers_over_related_class c10H 7 [some 1] [] 1 1 (Or.inl rfl)).1
example : typeorder c10H (.fdep 7 [some 1] (.cls 1)) (.cls 2) = .less ∧
    typeorder c10H (.cls 2) (.fdep 7 [some 1] (.cls 1)) = .more ∧
    typeorder c10H (.lit [10, 11] (.cls 1)) (.cls 2) = .less ∧
    typeorder c10H (.cls 2) (.lit [10, 11] (.cls 1)) = .more :=
  C10_prefers_over_related_class c10H 7 [some 1] [10, 11] 1 2 (Or.inr (Or.inl (by decide)))
example : typeorder c10H (.cls 0) (.fdep 7 [some 1] (.cls 1)) = .more :=
  (C10_prefers_over_related_class c10H 7 [some 1] [] 1 0 (Or.inr (Or.inr (by decide)))).2.1
example : typeorder c10H (.fdep 7 [some 1] (.cls 1)) (.cls 2) = .less := by decide
example : typeorder c10H (.cls 2) (.lit [10, 11] (.cls 1)) = .more := by decide

-- against the unrelated `C`
example : typeorder c10H (.fdep 7 [some 1] (.cls 1)) (.cls 3) = .none ∧
    typeorder c10H (.cls 3) (.fdep 7 [some 1] (.cls 1)) = .none ∧
    typeorder c10H (.lit [10] (.cls 1)) (.cls 3) = .none ∧
    typeorder c10H (.cls 3) (.lit [10] (.cls 1)) = .none :=
  C10_unrelated_class_refl c10H 7 [some 1] [10] 1 3 (by decide) (by decide) (by decide)
example : typeorder c10H (.cls 3) (.fdep 7 [some 1] (.cls 1)) = .none := by decide

/-- why `C10_unrelated_class` needs `d ≠ c` (or reflexivity): on a table where `issubclass(c, c)` is
    false the two `issubclass` hypotheses hold for `d = c`, yet the answer is LESS, because
    `subclasscheck` tests `t1 == t2` first -/
def c10Irrefl : Hier := ⟨fun _ _ => false, fun _ _ => false, fun _ _ => false⟩
example : c10Irrefl.sub 1 1 = false ∧ typeorder c10Irrefl (.fdep 7 [] (.cls 1)) (.cls 1) = .less := by decide

-- two conditions on `A`
example : typeorder c10H (.fdep 7 [some 1] (.cls 1)) (.fdep 8 [some 1] (.cls 1)) = .none ∧
    typeorder c10H (.fdep 8 [some 1] (.cls 1)) (.fdep 7 [some 1] (.cls 1)) = .none :=
  C10_two_conditions_ambiguous c10H 7 8 [some 1] [some 1] 1 (Or.inl (by decide)) (by decide) (by decide)
example : typeorder c10H (.fdep 7 [some 1] (.cls 1)) (.fdep 7 [some 2] (.cls 1)) = .none ∧
    typeorder c10H (.fdep 7 [some 2] (.cls 1)) (.fdep 7 [some 1] (.cls 1)) = .none :=
  C10_two_conditions_same_mask c10H 7 7 [some 1] [some 2] 1 (Or.inr (by decide)) (by decide)
example : typeorder c10H (.fdep 7 [some 1] (.cls 1)) (.fdep 7 [some 1] (.cls 1)) = .same := by
  rw [C10_two_conditions_same_bound]; decide
-- a concrete parameter is LESS than `Any` at the same position
example : typeorder c10H (.fdep 7 [some 1, none] (.cls 1)) (.fdep 7 [none, none] (.cls 1)) = .less := by
  rw [C10_two_conditions_same_bound]; decide
example : typeorder c10H (.fdep 7 [none, none] (.cls 1)) (.fdep 7 [some 1, none] (.cls 1)) = .more := by
  rw [C10_two_conditions_same_bound]; decide
-- `Any` at different positions: unordered
example : typeorder c10H (.fdep 7 [some 1, none] (.cls 1)) (.fdep 7 [none, some 1] (.cls 1)) = .none := by
  rw [C10_two_conditions_same_bound]; decide
example : typeorder c10H (.fdep 7 [some 1, none] (.cls 1)) (.fdep 7 [none, none] (.cls 1)) = .less := by decide
example : typeorder c10H (.lit [10, 11] (.cls 1)) (.lit [10] (.cls 1)) = .none := by
  rw [C10_two_literals_same_bound]; decide
example : typeorder c10H (.lit [10] (.cls 1)) (.lit [10, 11] (.cls 1)) = .none := by decide
example : typeorder c10H (.lit [10] (.cls 1)) (.fdep 7 [some 1] (.cls 1)) = .none :=
  (C10_literal_vs_condition c10H [10] 7 [some 1] 1).1

-- bounds `B` < `A`; `A` and `C` unrelated
example : typeorder c10H (.fdep 7 [some 1] (.cls 2)) (.fdep 8 [none] (.cls 1)) = .less := by
  rw [(C10_bounds_decide c10H 7 8 [some 1] [none] [] [] 2 1 (by decide)).1]; decide
example : typeorder c10H (.fdep 8 [none] (.cls 1)) (.lit [10] (.cls 2)) = .more := by
  rw [(C10_bounds_decide c10H 8 7 [none] [] [] [10] 1 2 (by decide)).2.2.1]; decide
example : typeorder c10H (.fdep 7 [some 1] (.cls 1)) (.fdep 7 [some 1] (.cls 3)) = .none := by
  rw [(C10_bounds_decide c10H 7 7 [some 1] [some 1] [] [] 1 3 (by decide)).1]; decide
example : typeorder c10H (.fdep 7 [some 1] (.cls 2)) (.fdep 8 [none] (.cls 1)) = .less := by decide
/-- the hypothesis `≠ .same` of `C10_bounds_decide` cannot be weakened to `c1 ≠ c2`: for the mutually
    sub-classing 4 / 5 the bounds are SAME but the dependent types are not (conditions decide) -/
example : typeorder c10H (.cls 4) (.cls 5) = .same ∧
    typeorder c10H (.fdep 7 [some 1] (.cls 4)) (.fdep 8 [some 1] (.cls 5)) = .none ∧
    typeorder c10H (.fdep 7 [some 1] (.cls 4)) (.fdep 8 [none] (.cls 5)) = .less := by decide

end Ovld

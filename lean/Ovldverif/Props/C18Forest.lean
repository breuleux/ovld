import Ovldverif.Model.BuildForest
import Ovldverif.Props.C18
/-!
# C18 for a function with any number of linked variants

`Props/C18.lean` is about one function.  Here the function has a list of linked variants of any length (model:
`Model/BuildForest.lean`; `Props/C18Tree.lean` derives the case of exactly one variant, `Model/BuildTree.lean`).
The histories: registrations / removals on the function, new variants, registrations on the variants and calls of
any of them, with natural failures and an interrupt inside any of the builds.
-/
set_option autoImplicit false
namespace Ovld.Build

theorem safeS_iff (s : S) : safeS s s.defns = true ↔ Safe s := by
  rcases s with ⟨ds, c, e, tb⟩
  unfold safeS Safe
  cases c <;> cases e <;> simp

theorem view_eq_of_defns {c : S} {ds : List Nat} (h : c.defns = ds) : ({ c with defns := ds } : S) = c := by
  subst h; rfl

theorem Child.safe_iff (p : S) (ch : Child) :
    ch.safe p = true ↔ Safe ch.c ∧ ch.c.defns = ch.eff p := by
  unfold Child.safe
  rw [Bool.and_eq_true, beq_iff_eq]
  exact and_congr_left fun h => h ▸ safeS_iff ch.c

theorem F.safe_iff (t : F) : t.safe = true ↔ Safe t.p ∧ ∀ ch ∈ t.cs, ch.safe t.p = true := by
  unfold F.safe
  rw [Bool.and_eq_true, safeS_iff, List.all_eq_true]

theorem Child.view_safe {p : S} {ch : Child} (h : ch.safe p = true) : Safe (ch.view p) := by
  obtain ⟨h1, h2⟩ := (Child.safe_iff p ch).1 h
  have hv : ch.view p = ch.c := view_eq_of_defns h2
  exact hv ▸ h1

theorem Child.safe_congr {p p' : S} (h : p'.defns = p.defns) (ch : Child) : ch.safe p' = ch.safe p := by
  unfold Child.safe Child.eff; rw [h]

theorem updChild_fst (cfg : Cfg) (p : S) (ch : Child) (ic : Bool) :
    (updChild cfg p ch ic).1 =
      { ch with c := if ch.c.compiled then (compile cfg (ch.view p) (intr ic)).1 else ch.view p } := by
  unfold updChild
  split <;> rfl

/-- `child._update()`: whatever happens inside it, the variant ends up out of service or complete, over the
    function's current definitions and its own -/
theorem updChild_safe (cfg : Cfg) (p : S) (ch : Child) (ic : Bool) (hc : Pre ch.c) :
    (updChild cfg p ch ic).1.safe p = true :=
  updChild_fst cfg p ch ic ▸ (Child.safe_iff p _).2 (rebuild_safe cfg (ch.view p) (intr ic) hc)

theorem updAll_safe (cfg : Cfg) (p : S) : ∀ (cs : List Child) (ics : List Bool), (∀ ch ∈ cs, Pre ch.c) →
    ∀ ch' ∈ (updAll cfg p cs ics).1, ch'.safe p = true
  | [], _, _ => nofun
  | ch :: rest, ics, hpre => by
    obtain ⟨h1, h2⟩ := List.forall_mem_cons.1 hpre
    exact List.forall_mem_cons.2 ⟨updChild_safe cfg p ch _ h1, updAll_safe cfg p rest ics.tail h2⟩

theorem updAll_length (cfg : Cfg) (p : S) : ∀ (cs : List Child) (ics : List Bool),
    (updAll cfg p cs ics).1.length = cs.length
  | [], _ => rfl
  | _ :: rest, ics => congrArg (· + 1) (updAll_length cfg p rest ics.tail)

theorem rebuildP_fst (cfg : Cfg) (p : S) (ip : Bool) :
    (rebuildP cfg p ip).1 = if p.compiled then (compile cfg p (intr ip)).1 else p := by
  unfold rebuildP
  split <;> rfl

theorem rebuildP_safe (cfg : Cfg) (p : S) (ip : Bool) (hp : Pre p) : Safe (rebuildP cfg p ip).1 :=
  rebuildP_fst cfg p ip ▸ (rebuild_safe cfg p (intr ip) hp).1

theorem updateF_safe (cfg : Cfg) (t : F) (ip : Bool) (ics : List Bool) (hp : Pre t.p)
    (hc : ∀ ch ∈ t.cs, Pre ch.c) : (updateF updAll cfg t ip ics).1.safe = true :=
  (F.safe_iff _).2 ⟨rebuildP_safe cfg t.p ip hp, updAll_safe cfg _ t.cs ics hc⟩

theorem F.safe_set {t : F} (h : t.safe = true) (i : Nat) {ch : Child} (hch : ch.safe t.p = true) :
    ({ t with cs := t.cs.set i ch } : F).safe = true := by
  obtain ⟨hp, hcs⟩ := (F.safe_iff t).1 h
  refine (F.safe_iff _).2 ⟨hp, fun x hx => ?_⟩
  rcases List.mem_or_eq_of_mem_set hx with hx | rfl
  · exact hcs x hx
  · exact hch

/-- **one operation** keeps the function and all its variants safe -/
theorem C18_forest_step (cfg : Cfg) (t : F) (op : FOp) (h : t.safe = true) : (stepF cfg t op).1.safe = true := by
  obtain ⟨hp, hcs⟩ := (F.safe_iff t).1 h
  have hpre : ∀ ch ∈ t.cs, Pre ch.c := fun ch hc => ((Child.safe_iff t.p ch).1 (hcs ch hc)).1.pre
  unfold stepF
  -- one case per operation in the order of `FOp`, `regC` and `callC` twice: no variant `i` (case4, case7), or the
  -- variant `ch` (case5, case8); `hcall`: what the call returns
  fun_cases stepFWith updAll cfg t op with
  | case1 d ip ics | case2 d ip ics => exact updateF_safe cfg _ ip ics (pre_of_safe hp _) hpre
  | case3 =>
    refine (F.safe_iff _).2 ⟨hp, fun ch hc => ?_⟩
    rcases List.mem_append.1 hc with hc | hc
    · exact hcs ch hc
    · cases List.mem_singleton.1 hc
      exact (Child.safe_iff t.p _).2 ⟨safe_of_entry_none rfl rfl, (List.append_nil _).symm⟩
  | case4 | case7 => exact h
  | case5 i d ic ch hi r => exact F.safe_set h i (updChild_safe cfg t.p _ ic (hpre ch (List.mem_of_getElem? hi)))
  | case6 r ip p' o hcall =>
    obtain ⟨_, hs, hd⟩ := C18_call cfg t.p r (intr ip) hp
    rw [hcall] at hs hd
    exact (F.safe_iff _).2 ⟨hs, fun ch hc => (Child.safe_congr hd ch).trans (hcs ch hc)⟩
  | case8 i r ic ch hi c' o hcall =>
    obtain ⟨_, hs, hd⟩ := C18_call cfg _ r (intr ic) (Child.view_safe (hcs ch (List.mem_of_getElem? hi)))
    rw [hcall] at hs hd
    exact F.safe_set h i ((Child.safe_iff _ _).2 ⟨hs, hd⟩)

theorem runF_safe (cfg : Cfg) : ∀ (ops : List FOp) (t : F), t.safe = true → (runF cfg t ops).safe = true
  | [], _, h => h
  | op :: rest, t, h => runF_safe cfg rest _ (C18_forest_step cfg t op h)

/-- a call of variant `i` fails or is answered from the complete merged method set, and is answered when uninterrupted
    with all of these methods valid — for ANY function in good order, reached from the empty one or not -/
theorem F.callC_served (cfg : Cfg) {t : F} (h : t.safe = true) {i : Nat} {ch : Child} (hi : t.cs[i]? = some ch)
    (r : Route) (ic : Bool) :
    ((stepF cfg t (.callC i r ic)).2 = .error ∨
        (stepF cfg t (.callC i r ic)).2 = .served (ch.eff t.p) (ch.eff t.p)) ∧
      (ic = false → AllGood cfg (ch.eff t.p) → (stepF cfg t (.callC i r ic)).2 = .served (ch.eff t.p) (ch.eff t.p)) := by
  have hs := Child.view_safe (((F.safe_iff t).1 h).2 ch (List.mem_of_getElem? hi))
  unfold stepF stepFWith
  dsimp only   -- the `match` on `.callC i r ic`
  rw [hi]
  exact ⟨(C18_call cfg _ r (intr ic) hs).1, fun hic hg => hic ▸ C18_recovers cfg _ r hs hg⟩

/-- **every history**: the function and every one of its linked variants is never left serving anything but the
    complete set of definitions it is to be built from -/
theorem C18_forest (cfg : Cfg) (ops : List FOp) : (runF cfg {} ops).safe = true :=
  runF_safe cfg ops {} rfl

/-- **later calls of any variant** either fail or are answered by the entry point of the complete merged method set
    over the complete table -/
theorem C18_forest_call (cfg : Cfg) (ops : List FOp) (i : Nat) (ch : Child) (r : Route) (ic : Bool)
    (hi : (runF cfg {} ops).cs[i]? = some ch) :
    let t := runF cfg {} ops
    (stepF cfg t (.callC i r ic)).2 = .error ∨ (stepF cfg t (.callC i r ic)).2 = .served (ch.eff t.p) (ch.eff t.p) :=
  (F.callC_served cfg (C18_forest cfg ops) hi r ic).1

/-- **once the offending method is removed every variant works normally**: a variant all of whose definitions can be
    built answers from the complete merged method set, whatever failed before -/
theorem C18_forest_recovers (cfg : Cfg) (ops : List FOp) (i : Nat) (ch : Child) (r : Route)
    (hi : (runF cfg {} ops).cs[i]? = some ch) (hg : AllGood cfg (ch.eff (runF cfg {} ops).p)) :
    let t := runF cfg {} ops
    (stepF cfg t (.callC i r false)).2 = .served (ch.eff t.p) (ch.eff t.p) :=
  (F.callC_served cfg (C18_forest cfg ops) hi r false).2 rfl hg

/-- finding D47, on the loop before its `fix:` (`updAllOld`): two linked variants, both in service; the function gets a
    method (`9`) the FIRST variant cannot be built with; the second variant is never rebuilt and goes on answering from
    the previous definitions (`[1]` instead of `[1, 9]`) -/
theorem C18_forest_old_counterexample :
    let cfg : Cfg := ⟨fun _ => false, fun ds => !(ds.contains 9 && ds.contains 5)⟩
    let ops : List FOp := [.regP 1 false [], .newC, .regC 0 5 false, .newC, .callP .obj false,
      .callC 0 .obj false, .callC 1 .obj false, .regP 9 false []]
    (runFOld cfg {} ops).safe = false ∧
      (stepFOld cfg (runFOld cfg {} ops) (.callC 1 .fn false)).2 = .served [1] [1] ∧
      (runFOld cfg {} ops).p.defns = [1, 9] ∧
      (runF cfg {} ops).safe = true ∧
      (stepF cfg (runF cfg {} ops) (.callC 1 .fn false)).2 = .served [1, 9] [1, 9] ∧
      (stepF cfg (runF cfg {} ops) (.callC 0 .fn false)).2 = .error := by
  decide +kernel

/-- non-vacuity: three variants, a natural failure in one of them, an interrupt inside the rebuild of another -/
example :
    let cfg : Cfg := ⟨fun _ => false, fun ds => !(ds.contains 9 && ds.contains 5)⟩
    let ops : List FOp := [.regP 1 false [], .newC, .newC, .newC, .regC 1 5 false, .callC 0 .obj false,
      .callC 1 .obj false, .callC 2 .fn false, .regP 9 false [true, false, false], .callC 0 .fn false]
    (runF cfg {} ops).safe = true ∧ (runF cfg {} ops).cs.length = 3 ∧
      ((runF cfg {} ops).cs.map (fun ch => (ch.c.table, ch.c.compiled))) = [([1, 9], true), ([], false), ([1, 9], true)] := by
  decide +kernel

end Ovld.Build

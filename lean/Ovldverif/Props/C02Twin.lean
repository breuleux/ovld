import Ovldverif.Props.C13
import Ovldverif.Lemmas.SpecRule
/-!
# C02 — the documented rule read up to mutual subclassing is the documented rule

`Spec/Resolve.lean` states the rule twice: with "the same type" read as equality (`specResolve`, the form
`C02_partial` / `C06` / `C07` are proved for, under `Hier.Antisym`) and read as "each a subclass of the other"
(`specResolveE`, which the harness also applies to hierarchies with structurally identical protocols).  Under the
hypotheses of `C02_partial` — a well-formed antisymmetric hierarchy, declared types plain classes — the two are the
same function, for every method set and every key.
-/
set_option autoImplicit false
namespace Ovld

variable (H : Hier)

theorem eqvTy_cls (wf : H.WF) (anti : H.Antisym) (a b : Nat) :
    eqvTy H (.cls a) (.cls b) = (Ty.cls a == Ty.cls b) := by
  unfold eqvTy leTy
  by_cases e : a = b
  · subst e; simp
  · have h1 : (Ty.cls a == Ty.cls b) = false := beq_eq_false_iff_ne.2 fun h => e (Ty.cls.inj h)
    have h2 : (Ty.cls b == Ty.cls a) = false := beq_eq_false_iff_ne.2 fun h => e (Ty.cls.inj h).symm
    rw [h1, h2, C13_cls H wf, C13_cls H wf]
    cases hab : H.sub a b <;> cases hba : H.sub b a <;> simp
    exact e (anti a b hab hba)

theorem sameTypesAtE_eq (wf : H.WF) (anti : H.Antisym) {ms : List Meth} (hst : staticTable ms = true)
    (k : Key) {m m' : Meth} (hm : m ∈ ms) (hm' : m' ∈ ms) :
    sameTypesAtE H k m m' = sameTypesAt k m m' := by
  unfold sameTypesAtE sameTypesAt
  apply all_congr_mem
  intro e _
  cases h1 : m.tyAt e.1 <;> cases h2 : m'.tyAt e.1 <;> try rfl
  obtain ⟨a, rfl⟩ := tyAt_cls hst hm h1
  obtain ⟨b, rfl⟩ := tyAt_cls hst hm' h2
  simp [eqvTy_cls H wf anti]

theorem beatsE_eq (wf : H.WF) (anti : H.Antisym) {ms : List Meth} (hst : staticTable ms = true)
    (k : Key) {m m' : Meth} (hm : m ∈ ms) (hm' : m' ∈ ms) : beatsE H k m m' = beats H k m m' := by
  unfold beatsE beats
  rw [sameTypesAtE_eq H wf anti hst k hm hm']

/-- **on the hierarchies of `C02_partial` the two readings of the rule coincide** -/
theorem C02_specE_eq (wf : H.WF) (anti : H.Antisym) (ms : List Meth) (hst : staticTable ms = true) (k : Key) :
    specResolveE H ms k = specResolve H ms k :=
  resolveWith_congr fun _ hm _ hm' => beatsE_eq H wf anti hst k (mem_of_applicable hm) (mem_of_applicable hm')

theorem C02_tieE_eq (wf : H.WF) (anti : H.Antisym) (ms : List Meth) (hst : staticTable ms = true) (k : Key) :
    sigTieOKE H ms k = sigTieOK H ms k := by
  unfold sigTieOKE sigTieOK
  apply all_congr_mem
  intro m hm
  apply all_congr_mem
  intro m' hm'
  rw [sameTypesAtE_eq H wf anti hst k (mem_of_applicable hm) (mem_of_applicable hm')]

/-- … and so do the two readings of what `call_next` must do (C07) -/
theorem C07_nextSpecE_eq (wf : H.WF) (anti : H.Antisym) (ms : List Meth) (hst : staticTable ms = true)
    (code : Nat) (k : Key) : nextSpecE H ms code k = nextSpec H ms code k := by
  unfold nextSpecE nextSpec
  split
  · exact C02_specE_eq H wf anti ms hst k
  · rename_i cur hcur
    have hc : cur ∈ ms := mem_of_applicable (List.mem_of_find?_eq_some hcur)
    rw [List.filter_congr (q := fun m => !(m.id == cur.id || (applicableTo H k m && beats H k m cur)))
      (fun m hm => by rw [beatsE_eq H wf anti hst k hm hc])]
    exact C02_specE_eq H wf anti _ (List.all_eq_true.mpr fun m hm =>
      List.all_eq_true.mp hst m (List.mem_filter.1 hm).1) k

/-!
The rule read up to mutual subclassing is, like the other reading, a function of the applicable entries, so it does
not depend on the order of registration and ignores entries that are not applicable — on EVERY hierarchy (no
antisymmetry, no well-formedness needed): the oracle the harness applies to twin-protocol worlds is itself
order-independent. -/

theorem C06_specE_perm (ms ms' : List Meth) (hp : ms'.Perm ms) (k : Key) :
    specResolveE H ms' k = specResolveE H ms k :=
  resolveWith_perm _ (applicable_perm H hp k)

theorem C06_specE_irrelevant (ms extra : List Meth) (k : Key)
    (hx : ∀ m ∈ extra, applicableTo H k m = false) :
    specResolveE H (ms ++ extra) k = specResolveE H ms k :=
  congrArg (resolveWith _) (applicable_append_irrelevant H ms extra k hx)

/-- outside antisymmetry the readings differ — twin protocols 1 and 2 (each a subclass of the other), methods on
    `(1, 2)` and `(2, 1)`: read with equality each beats the other and both "win"; read up to mutual subclassing
    neither beats the other.  Both readings say ambiguous here; with a third method on `(1, 2)` whose signature
    differs from the first (an optional parameter) the equality reading names the `(2, 1)` method the winner. -/
theorem C02_twin_readings_differ :
    let Hx : Hier := { sub := fun a b => a == b || b == 0 || (a == 1 && b == 2) || (a == 2 && b == 1) || (a == 3 && (b == 1 || b == 2)),
                       hasAttr := fun _ _ => false, pred := fun _ _ => false }
    let m1 : Meth := { id := 1, code := 1, params := [(.pos 0, .cls 1), (.pos 1, .cls 2)], reqPos := 2, maxPos := 2, reqNames := [], prio := 0, tb := 0 }
    let m2 : Meth := { id := 2, code := 2, params := [(.pos 0, .cls 2), (.pos 1, .cls 1)], reqPos := 2, maxPos := 2, reqNames := [], prio := 0, tb := 0 }
    let m3 : Meth := { id := 3, code := 3, params := [(.pos 0, .cls 1), (.pos 1, .cls 2)], reqPos := 1, maxPos := 2, reqNames := [], prio := 0, tb := 0 }
    let k : Key := [(.pos 0, .cls 3), (.pos 1, .cls 3)]
    specResolve Hx [m1, m2, m3] k = .ran 2 ∧ specResolveE Hx [m1, m2, m3] k = .ambiguous := by
  decide

end Ovld

import Ovldverif.Props.C19Build
/-!
# C20 under concurrent first calls — a function that has been built is not built again

A rebuild throws the table away, and with it every argument-type combination that has already been handled: each
would be resolved again (user class predicates, order hooks and subtype hooks consulted again) although the set of
methods has not changed.  `C20_build_stable`: in the model of `Model/ConcBuild.lean` (`ensure_compiled` re-reads
`_compiled` under the lock), once the flag is set NO schedule of NO number of threads changes the shared build state
again — table, entry point and flag stay what the one build left.
-/
set_option autoImplicit false
namespace Ovld.ConcBuild
open Ovld.Build

/-- the writes are those of a build, and a thread is in a build only while the function is not flagged built -/
theorem step_stable {cfg : Cfg} {D : List Nat} {sys : Sys} (h : Inv cfg D sys) (hc : sys.s.compiled = true)
    (i : Nat) : (stepThread cfg sys i).s = sys.s := by
  unfold stepThread
  cases ht : sys.threads[i]? with
  | none => rfl
  | some t =>
    have hpc := h.pcs i t ht
    obtain ⟨r, pc⟩ := t
    cases pc with
    | chk1 | chk2 => exact ite_of (P := fun y : Sys => y.s = sys.s) (fun _ => rfl) (fun _ => rfl)
    | acq =>
      cases sys.lock with
      | none => rfl
      | some j => exact ite_of (P := fun y : Sys => y.s = sys.s) (fun _ => rfl) (fun _ => rfl)
    | disp => cases sys.s.entry <;> rfl
    | bNew | bNames | bFill _ | bSwap | bFlag | bFail => exact nomatch (hpc.not_compiled trivial).symm.trans hc
    | _ => rfl

theorem run_stable {cfg : Cfg} {D : List Nat} : ∀ (sched : List Nat) {sys : Sys}, Inv cfg D sys →
    sys.s.compiled = true → (run cfg sys sched).s = sys.s
  | [], _, _, _ => rfl
  | i :: sched, sys, h, hc => by
    have e := step_stable h hc i
    exact (run_stable sched (h.step i) (e ▸ hc)).trans e

/-- **built once**: take any number of threads calling a function, any schedule `pre` after which the function is
    flagged built, and any continuation `post` of it — the table, the entry point and the flag after `pre ++ post`
    are those after `pre`: nothing that has been cached in between is thrown away by a second build -/
theorem C20_build_stable (cfg : Cfg) (s : S) (hs : Safe s) (routes : List Route) (pre post : List Nat)
    (hc : (run cfg (init s routes) pre).s.compiled = true) :
    (run cfg (run cfg (init s routes) pre) post).s = (run cfg (init s routes) pre).s :=
  run_stable post (Inv.reach cfg s hs routes pre) hc

/-- … and what it serves is the complete method set over the complete table -/
theorem C20_built_complete (cfg : Cfg) (s : S) (hs : Safe s) (routes : List Route) (pre : List Nat)
    (hc : (run cfg (init s routes) pre).s.compiled = true)
    (hl : (run cfg (init s routes) pre).lock = none) :
    (run cfg (init s routes) pre).s.entry = some s.defns ∧ (run cfg (init s routes) pre).s.table = s.defns := by
  have h := Inv.reach cfg s hs routes pre
  rcases h.free hl with hu | hb
  · exact nomatch hu.2.symm.trans hc
  · exact h.defns ▸ hb.2

/-- `ensure_compiled` with the lock but without the second read of `_compiled` -/
def stepNoRecheck (cfg : Cfg) (sys : Sys) (i : Nat) : Sys :=
  match sys.threads[i]? with
  | some { route := r, pc := .chk2 } =>
    { s := sys.s, lock := sys.lock, threads := sys.threads.set i { route := r, pc := .bNew } }
  | _ => stepThread cfg sys i

def runNoRecheck (cfg : Cfg) (sys : Sys) : List Nat → Sys
  | [] => sys
  | i :: sched => runNoRecheck cfg (stepNoRecheck cfg sys i) sched

/-- two threads, methods `[1, 2]`: thread 0 reads `_compiled` (false) and is switched out; thread 1 builds, is
    answered, finishes; thread 0 takes the lock and — without the second read — starts a build: the table of a
    function in service is empty again.  With the second read the state does not move. -/
theorem C20_no_recheck_counterexample :
    let cfg : Cfg := ⟨fun _ => false, fun _ => true⟩
    let s : S := { defns := [1, 2] }
    let pre : List Nat := [0] ++ List.replicate 13 1
    let post : List Nat := [0, 0, 0]
    (runNoRecheck cfg (init s [.obj, .obj]) pre).s.compiled = true ∧
      (runNoRecheck cfg (init s [.obj, .obj]) pre).s.table = [1, 2] ∧
      ((runNoRecheck cfg (init s [.obj, .obj]) pre).threads.map (·.pc))[1]? = some (.done (.served [1, 2] [1, 2])) ∧
      (runNoRecheck cfg (init s [.obj, .obj]) (pre ++ post)).s.table = [] ∧
      (run cfg (init s [.obj, .obj]) (pre ++ post)).s.table = [1, 2] := by
  decide +kernel

/-- non-vacuity of `C20_build_stable`: the same schedule in the model of the current code -/
example :
    let cfg : Cfg := ⟨fun _ => false, fun _ => true⟩
    let s : S := { defns := [1, 2] }
    (run cfg (init s [.obj, .obj]) ([0] ++ List.replicate 13 1)).s.compiled = true ∧ Safe s := by
  exact ⟨by decide +kernel, Or.inl ⟨rfl, rfl⟩⟩

end Ovld.ConcBuild

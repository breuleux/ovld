import Ovldverif.Lemmas.DepDispatch
/-!
# C10 — value-dependent methods run exactly when their condition holds, whatever code is generated

`dispatch` is the model of the generated `__DEPENDENT_DISPATCH__` (three possible bodies: lookup table on a
Literal key, first match, counting); `rankSpec` is the documented meaning.  `C10_guard`: a guarded member does not
consult the condition outside the bound.
-/
set_option autoImplicit false
namespace Ovld

/-- **strategy independence / correctness**: whichever of the three bodies the generator emits, the dispatcher
    of a rank runs exactly the unique handler all of whose positions accept the values, falls through when
    there is none, and raises the ambiguity when there are several.

    `RankOK.check` is a hypothesis: `C11_genCheck_guardable` gives its first half slot by slot for guardable types; no
    theorem assembles a `RankOK` from that. -/
theorem C10_strategy_correct (W : DWorld) (k : List Slot) (hs : List DHandler) (args : List (Slot × DVal))
    (ok : RankOK W k hs args) :
    dispatch W k hs args = rankSpec W k hs args := by
  cases hst : strategy W k hs with
  | keyed s table => exact dispatch_keyed hst ok
  | firstMatch => exact dispatch_firstMatch hst ok
  | counting => exact dispatch_counting hst ok

/-- the user's condition is consulted by a guarded member only for values inside the bound: `W.chk` is arbitrary
    and could raise, yet the answer outside the bound is `no` whatever it is.

    `htop` (every class is a subclass of `object`) excludes the bound `object`, for which no guard is emitted (last
    `example` of Props/C01Dep.lean). -/
theorem C10_guard (W : DWorld) (fn : Nat) (ps : List (Option Nat)) (c : Nat) (v : DVal)
    (htop : W.H.sub v.cls 0 = true)
    (hout : W.H.sub v.cls c = false) :
    memberCheck W ((Ty.fdep fn ps (.cls c)).size + 1) (.fdep fn ps (.cls c)) v = .no := by
  rw [memberCheck_guardable W v htop _ (.fdep fn ps _ (.cls c) rfl) _ (Nat.lt_succ_self _), isinstanceOf_fdep,
    isinstanceOf_cls, hout]
  rfl

end Ovld

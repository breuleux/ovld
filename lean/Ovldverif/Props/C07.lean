import Ovldverif.Lemmas.PullNext
/-!
# C07 — call_next walks down the resolution order one method at a time

`hcodes` in `C07_step` and `codesAbove` in `C07_next_partial` are there because the publication loop of
`MultiTypeMap.resolve` stops (`if not codes: break`) below a rank none of whose handlers has a `__code__`.
-/
set_option autoImplicit false
namespace Ovld

/-- what the continuation key of a method in rank `i` resolves to: the next rank (`resOfRank rs[i + 1]?` written out) -/
def nextRankRes (rs : List (Rank Entry (List Nat))) (i : Nat) : Res Entry (List Nat) :=
  match rs[i + 1]? with
  | some r => (match r.func with | some f => .ok f | none => .amb r.err)
  | none => .noMethod

theorem nextRankRes_eq (rs : List (Rank Entry (List Nat))) (i : Nat) :
    nextRankRes rs i = resOfRank (rs.drop (i + 1)).head? := by
  unfold nextRankRes resOfRank
  rw [List.head?_drop]
  cases rs[i + 1]? with
  | none => rfl
  | some r => dsimp only; cases r.func <;> rfl

/-- **one rank at a time**: `call_next` from a handler of rank `i` (for the key it was resolved for) yields
    exactly rank `i + 1`: its single handler, its dependent dispatcher, its ambiguity error when it is a tied
    rank, or "No method" below the last rank — for every table, key and set order, no hypothesis on the types.

    Without `hcodes` the continuation keys of the ranks below a code-less rank are never written.  Worked by hand,
    not machine-checked: classes `3 <: 2 <: 1`, one positional parameter, `m0 : (3)` without code object,
    `m1 : (2)` with code 101, `m2 : (1)`, key `(3)`: the ranks are `[m0], [m1], [m2]`, `hprev` holds for `i = 1`,
    the loop breaks after publishing `[m0]`, and `(some 101, k)` resolves to "No method", not to `[m2]`. -/
theorem C07_step (cfg : Cfg) (ms : List Meth) (hd : DistinctHandlers ms) (k : Key) (c : Code) (i : Nat)
    (r : Rank Entry (List Nat)) (hr : (plan cfg ms k).ranks[i]? = some r) (hc : c ∈ r.codes)
    (f : Entry) (htop : pureLookup (plan cfg ms) (none, k) = .ok f)
    (hprev : ∀ j, j ≤ i → ∀ r', (plan cfg ms k).ranks[j]? = some r' → r'.func.isSome = true)
    (hcodes : ∀ j, j < i → ∀ r', (plan cfg ms k).ranks[j]? = some r' → r'.codes.isEmpty = false) :
    pureLookup (plan cfg ms) (some c, k) = nextRankRes (plan cfg ms k).ranks i := by
  obtain ⟨hi, rfl⟩ := List.getElem?_eq_some_iff.mp hr
  have hlive : ∀ r' ∈ (plan cfg ms k).ranks.take i, r'.live = true := by
    intro r' hr'
    obtain ⟨j, hj, rfl⟩ := List.mem_take_iff_getElem.mp hr'
    have hj' : j < i ∧ j < (plan cfg ms k).ranks.length := by omega
    have hget := List.getElem?_eq_getElem hj'.2
    exact Bool.and_eq_true_iff.mpr ⟨hprev j (Nat.le_of_lt hj'.1) _ hget, by rw [hcodes j hj'.1 _ hget]; rfl⟩
  rw [nextRankRes_eq]
  exact step_split (plan cfg ms) (plan_ok cfg ms hd.ids hd.codes) k c _ _ _
    (by rw [← List.drop_eq_getElem_cons hi, List.take_append_drop]) (pureTop_ok_fail _ htop) hlive (hprev i (Nat.le_refl _) _ hr) hc

/-- **never the same method twice**: the code objects of different ranks are different -/
theorem C07_once (cfg : Cfg) (ms : List Meth) (hd : DistinctHandlers ms) (k : Key) (i j : Nat)
    (ri rj : Rank Entry (List Nat)) (hi : (plan cfg ms k).ranks[i]? = some ri) (hj : (plan cfg ms k).ranks[j]? = some rj)
    (hij : i ≠ j) (c : Code) (hci : c ∈ ri.codes) : c ∉ rj.codes := by
  obtain ⟨hi', rfl⟩ := List.getElem?_eq_some_iff.mp hi
  obtain ⟨hj', rfl⟩ := List.getElem?_eq_some_iff.mp hj
  have pw := List.pairwise_iff_getElem.mp
    (List.pairwise_flatMap.mp ((plan_ok cfg ms hd.ids hd.codes).codes_nodup k)).2
  intro hcj
  rcases Nat.lt_or_gt_of_ne hij with h | h
  · exact pw i j hi' hj' h c hci c hcj rfl
  · exact pw j i hj' hi' h c hcj c hci rfl

/-- **fresh call**: when the current method is not a candidate for the key (it is not applicable to the new
    arguments), `call_next` behaves exactly like a fresh call -/
theorem C07_fresh (cfg : Cfg) (ms : List Meth) (k : Key) (c : Code)
    (h : (plan cfg ms k).allCodes.contains c = false) :
    pureLookup (plan cfg ms) (some c, k) = pureLookup (plan cfg ms) (none, k) :=
  pureNext_fresh (plan cfg ms) k c h

/-- **documented meaning**, static tables: `call_next` from `cur` resolves as if `cur` and everything ranked
    above it had not been registered — under the hypotheses of C02 and `strictAbove` (no tied rank at or above
    the current method: finding D18).

    `hca` is there for the same reason as `hcodes` in `C07_step`: in the instance described there `cur = m1`
    satisfies all other hypotheses, yet its continuation key resolves to "No method" and the rule selects `m2`. -/
theorem C07_next_partial (cfg : Cfg) (ms : List Meth) (wf : cfg.H.WF) (anti : cfg.H.Antisym)
    (hd : DistinctHandlers ms) (hst : staticTable ms = true) (htw : tableWF ms = true)
    (k : Key) (hk : keyWF k = true) (hne : k ≠ [])
    (hcc : candComparable cfg.H ms k = true) (htie : sigTieOK cfg.H ms k = true)
    (cur : Meth) (hcur : cur ∈ applicable cfg.H ms k) (hcode : cur.hasCode = true)
    (hsa : strictAbove cfg.H ms k cur = true) (hca : codesAbove cfg.H ms k cur = true) :
    specAgrees (pureLookup (plan cfg ms) (some cur.code, k)) (nextSpec cfg.H ms cur.code k) := by
  have _ := htw  -- not needed by the proof; part of the claim's scope, as in C02
  have _ := hne
  exact next_partial_core cfg ms wf anti hd hst k (keyWF_cls hk) hcc htie cur hcur hcode hsa hca

/-- `C07_next_partial` for the call without arguments (the key `[]` is resolved like every other key: the `fix:` for
    finding D9; `candComparable` is vacuous for it) -/
theorem C07_next_partial_zero_args (cfg : Cfg) (ms : List Meth) (wf : cfg.H.WF) (anti : cfg.H.Antisym)
    (hd : DistinctHandlers ms) (hst : staticTable ms = true) (htw : tableWF ms = true)
    (htie : sigTieOK cfg.H ms [] = true)
    (cur : Meth) (hcur : cur ∈ applicable cfg.H ms []) (hcode : cur.hasCode = true)
    (hsa : strictAbove cfg.H ms [] cur = true) (hca : codesAbove cfg.H ms [] cur = true) :
    specAgrees (pureLookup (plan cfg ms) (some cur.code, [])) (nextSpec cfg.H ms cur.code []) := by
  have _ := htw
  exact next_partial_core cfg ms wf anti hd hst [] (fun _ h => by cases h) (candComparable_nil cfg.H ms) htie
    cur hcur hcode hsa hca

end Ovld

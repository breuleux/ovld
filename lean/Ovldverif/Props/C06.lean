import Ovldverif.Spec.Runs
import Ovldverif.Lemmas.StaticRank
/-!
# C06 — resolution is deterministic and ignores irrelevant context

The documented rule (`specResolve`) mentions only the applicable methods, their declared types, priorities and
recency, so it cannot depend on registration order, on the iteration order of the library's sets (`Cfg.tyRank`,
`Cfg.hRank`: hash seeds and memory addresses enter the code only through them), or on methods that are not
applicable to the call.  By C02 the table agrees with the rule (inside the hypotheses that delimit findings D1
and D21), hence the table too is independent of them.
-/
set_option autoImplicit false
namespace Ovld

/-- same outcome: the same method, or an ambiguity on both sides, or no method on both sides -/
def sameAnswer : Res Entry (List Nat) → Res Entry (List Nat) → Prop
  | .ok (.meth a), .ok (.meth b) => a = b
  | .amb _, .amb _ => True
  | .noMethod, .noMethod => True
  | _, _ => False

/-- a case bash: `specAgrees _ s` fixes the shape of the answer; the only case with content is `ran`/`ran` -/
theorem sameAnswer_of_specAgrees {r r' : Res Entry (List Nat)} {s : SpecRes}
    (h' : specAgrees r' s) (h : specAgrees r s) : sameAnswer r' r := by
  cases s <;> rcases r with (_ | _ | _ | _) | _ | _ | _ | _ <;> try exact h.elim
  all_goals rcases r' with (_ | _ | _ | _) | _ | _ | _ | _ <;> try exact h'.elim
  · exact Eq.trans (b := _) h' h.symm
  all_goals trivial

theorem specResolve_perm (H : Hier) (ms ms' : List Meth) (hp : ms'.Perm ms)
    (hid : (ms.map (·.id)).Nodup) (k : Key) :
    specResolve H ms' k = specResolve H ms k := by
  have _ := hid
  exact resolveWith_perm _ (applicable_perm H hp k)

theorem specResolve_irrelevant (H : Hier) (ms extra : List Meth) (k : Key)
    (hx : ∀ m ∈ extra, applicableTo H k m = false) :
    specResolve H (ms ++ extra) k = specResolve H ms k :=
  congrArg (resolveWith _) (applicable_append_irrelevant H ms extra k hx)

theorem sameAnswer_of_applicable_perm (cfg cfg' : Cfg) (hH : cfg'.H = cfg.H) (ms ms' : List Meth)
    (wf : cfg.H.WF) (anti : cfg.H.Antisym) (hid : (ms.map (·.id)).Nodup) (hid' : (ms'.map (·.id)).Nodup)
    (hst : staticTable ms = true) (hst' : staticTable ms' = true) (k : Key) (hk : keyWF k = true)
    (hap : (applicable cfg.H ms' k).Perm (applicable cfg.H ms k))
    (hcc : candComparable cfg.H ms k = true) (htie : sigTieOK cfg.H ms k = true) :
    sameAnswer (pureLookup (plan cfg' ms') (none, k)) (pureLookup (plan cfg ms) (none, k)) := by
  have h2 := pure_agrees cfg' ms' (hH ▸ wf) (hH ▸ anti) hid' hst' k (keyWF_cls hk)
    (by rw [hH]; exact (all_all_perm _ hap).trans hcc) (by rw [hH]; exact (all_all_perm _ hap).trans htie)
  rw [hH, specResolve_eq, resolveWith_perm _ hap] at h2
  exact sameAnswer_of_specAgrees h2 (pure_agrees cfg ms wf anti hid hst k (keyWF_cls hk) hcc htie)

/-- **order independence**: two tables holding the same entries, registered in any two orders and iterated in
    any two set orders, answer a lookup alike -/
theorem C06_order (cfg cfg' : Cfg) (hH : cfg'.H = cfg.H) (ms ms' : List Meth) (hp : ms'.Perm ms)
    (wf : cfg.H.WF) (anti : cfg.H.Antisym)
    (hd : DistinctHandlers ms) (hst : staticTable ms = true) (htw : tableWF ms = true)
    (k : Key) (hk : keyWF k = true) (hne : k ≠ [])
    (hcc : candComparable cfg.H ms k = true) (htie : sigTieOK cfg.H ms k = true) :
    sameAnswer (pureLookup (plan cfg' ms') (none, k)) (pureLookup (plan cfg ms) (none, k)) := by
  have _ := htw; have _ := hne
  exact sameAnswer_of_applicable_perm cfg cfg' hH ms ms' wf anti hd.ids ((hp.map _).nodup_iff.mpr hd.ids)
    hst (by unfold staticTable; rw [hp.all_eq]; exact hst) k hk (applicable_perm cfg.H hp k) hcc htie

/-- **irrelevant methods**: registering further entries that are not applicable to the call does not change
    its outcome -/
theorem C06_irrelevant (cfg : Cfg) (ms extra : List Meth)
    (wf : cfg.H.WF) (anti : cfg.H.Antisym)
    (hd : DistinctHandlers (ms ++ extra)) (hst : staticTable (ms ++ extra) = true) (htw : tableWF (ms ++ extra) = true)
    (k : Key) (hk : keyWF k = true) (hne : k ≠ [])
    (hx : ∀ m ∈ extra, applicableTo cfg.H k m = false)
    (hcc : candComparable cfg.H ms k = true) (htie : sigTieOK cfg.H ms k = true) :
    sameAnswer (pureLookup (plan cfg (ms ++ extra)) (none, k)) (pureLookup (plan cfg ms) (none, k)) := by
  have _ := htw; have _ := hne
  have hi := hd.ids
  rw [List.map_append] at hi
  have hs := hst
  unfold staticTable at hs
  rw [List.all_append, Bool.and_eq_true] at hs
  exact sameAnswer_of_applicable_perm cfg cfg rfl ms (ms ++ extra) wf anti
    (List.nodup_append.mp hi).1 hd.ids hs.1 hst k hk
    (by rw [applicable_append_irrelevant cfg.H ms extra k hx]) hcc htie

end Ovld

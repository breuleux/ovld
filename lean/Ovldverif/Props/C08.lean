import Ovldverif.Props.C16
import Ovldverif.Lemmas.GraphCall
/-!
# C08 — recurse always re-enters the overloaded function that was actually called
# (and the behavioural half of C16 / C17: every function in the graph behaves like its overlay)

In the model a method body's `recurse(args)` is a lookup in the table of the function object whose call is being
executed (`runEntry` threads that function's state): for a fresh single function this is "calling the function
again" by definition.  The theorem transports this to every node of an arbitrary derivation graph: a call on
node `n` — including every nested `recurse` / `call_next` its methods perform, for methods inherited from parents
and mixins as well as its own — has the outcome and trace of the same call on a brand-new function carrying the
overlay of `n`'s ancestors' and own current definitions.  In particular inherited methods re-enter `n` (and see
its added and overriding methods), while the parents, on which the same theorem holds with *their* overlay, keep
re-entering themselves.
-/
set_option autoImplicit false
namespace Ovld

/-- the handlers that `compile` creates for node `n` are distinct objects with distinct code objects -/
def Graph.distinctAt (g : Graph) (n : Nat) : Prop := DistinctHandlers (Fn.methsOf (g.defns g.depth n))

/-- a call of `n` on a graph satisfying both invariants: either the lazy build refuses the definitions of `n`, or
    the call is answered on a graph, again satisfying both, where `n` is in service on its current definitions -/
theorem Graph.call_served (cfg : Cfg) {g : Graph} (hi : Inv g) (ht : AllOK cfg g) (n : Nat) (hn : n < g.len)
    (c : Call) :
    (∃ e, analyze ((g.defns g.depth n).map (·.1.d)) = .error e ∧ (g.call cfg n c).2 = (.configError, [], 0)) ∨
    ∃ g1, Inv g1 ∧ AllOK cfg g1 ∧ (g1.tb n).compiled = true ∧ (g1.tb n).built = g.defns g.depth n ∧
      g.call cfg n c = g1.serve cfg n c := by
  rw [Graph.call_eq]
  cases hc : (g.get n).compiled with
  | true => exact Or.inr ⟨g, hi, ht, hc, hi.cons n hc, rfl⟩
  | false =>
    rw [Bool.not_false, Graph.compileIf_true]
    cases ha : analyze ((g.defns g.depth n).map (·.1.d)) with
    | error e => rw [Graph.compile_eq, ha]; exact Or.inl ⟨e, rfl, rfl⟩
    | ok ana =>
      obtain ⟨g1, hg1⟩ : ∃ g1, g.compile n = (g1, none) := ⟨_, by rw [Graph.compile_eq, ha]⟩
      obtain ⟨rk, hr⟩ := hi.ranked
      have hres := Graph.compile_spec hr hi.mirror hn hg1
      have ht1 : AllOK cfg g1 := by
        have := ht.upd (Graph.compile_builds g n).tabs
        rwa [hg1] at this
      rw [hg1]
      exact Or.inr ⟨g1, hi.compile hres, ht1, hres.cp_n, hres.bt_n, rfl⟩

theorem Graph.call_as_fresh (cfg : Cfg) (g : Graph) (hi : Inv g) (ht : AllOK cfg g) (n : Nat) (hn : n < g.len)
    (hd : g.distinctAt n) (c : Call) :
    (g.call cfg n c).2.1 = ((Fn.fresh (g.defns g.depth n)).call cfg c).2.1 ∧
    (g.call cfg n c).2.2.1 = ((Fn.fresh (g.defns g.depth n)).call cfg c).2.2.1 := by
  rcases Graph.call_served cfg hi ht n hn c with ⟨e, ha, h⟩ | ⟨g1, _, ht1, hc, hb, h⟩
  · rw [h, Fn.call_fresh_err cfg _ e ha c]
    exact ⟨rfl, rfl⟩
  · rw [h, ← hb]
    exact TabOK.call_as_fresh cfg (g1.tb n) c (ht1 n) hc (hb ▸ hd)

theorem Graph.allOK_runOps (cfg : Cfg) (ops : List GOp) : ∀ (g : Graph), AllOK cfg g →
    AllOK cfg (Graph.runOps cfg g ops) := by
  induction ops with
  | nil => intro g h; exact h
  | cons op rest ih => intro g h; exact ih _ (h.step op)

theorem C08_call_as_fresh (cfg : Cfg) (ops : List GOp) (hok : Graph.opsOK cfg {} ops = true)
    (n : Nat) (hn : n < (Graph.runOps cfg {} ops).nodes.length)
    (hd : (Graph.runOps cfg {} ops).distinctAt n) (c : Call) :
    ((Graph.runOps cfg {} ops).call cfg n c).2.1 =
        Fn.outcome ((Fn.fresh ((Graph.runOps cfg {} ops).defns (Graph.runOps cfg {} ops).depth n)).call cfg c) ∧
    ((Graph.runOps cfg {} ops).call cfg n c).2.2.1 =
        Fn.trace ((Fn.fresh ((Graph.runOps cfg {} ops).defns (Graph.runOps cfg {} ops).depth n)).call cfg c) := by
  exact Graph.call_as_fresh cfg _ (Graph.inv_runOps cfg ops {} Inv.empty hok)
    (Graph.allOK_runOps cfg ops {} (AllOK.empty cfg)) n hn hd c

end Ovld

import Ovldverif.Props.C09
import Ovldverif.Model.RewriteStmt
/-!
# C09 for statements — rewriting a whole function body changes nothing except the recurse / call_next call sites

`pBlock` is an induction over the fuel (`exec` recurses on the fuel alone), using `pExpr` at every expression; a loop
re-executes its rewritten call sites with the same temporaries on every iteration.  Goals are unfolded by `show`, not
by `simp only [exec, rwS]` (see Lemmas/RewriteEqns.lean).
-/
set_option autoImplicit false
namespace Ovld.Rw

/-- the simulation relation between a run of the original and of the rewritten block -/
structure SimS (k k' : Nat) (ρ₂ : Env) (o o₂ : Res) : Prop where
  res : o₂.1 = o.1
  log : o₂.2.2 = o.2.2
  agree : Agree o.2.1 o₂.2.1
  frame : Frame k k' ρ₂ o₂.2.1

section
variable {k k' : Nat} {ρ₂ : Env} {o o₂ : Res}

theorem SimS.ret {ρ : Env} (r : Outcome) (l : Log) (ha : Agree ρ ρ₂) : SimS k k' ρ₂ (r, ρ, l) (r, ρ₂, l) :=
  ⟨rfl, rfl, ha, Frame.refl _ _ _⟩

theorem SimS.widen {a b : Nat} (h : SimS k k' ρ₂ o o₂) (ha : a ≤ k) (hb : k' ≤ b) : SimS a b ρ₂ o o₂ :=
  ⟨h.res, h.log, h.agree, h.frame.widen ha hb⟩

theorem SimS.exists_env (h : SimS k k' ρ₂ o o₂) : ∃ ρ₂', o₂ = (o.1, ρ₂', o.2.2) ∧ Agree o.2.1 ρ₂' ∧ Frame k k' ρ₂ ρ₂' := by
  obtain ⟨r2, ρ₂', l2⟩ := o₂
  exact ⟨ρ₂', by rw [← h.res, ← h.log], h.agree, h.frame⟩

/-- a piece that consumes `[a, b)`, then one that consumes `[k, k')` -/
theorem SimS.after {a b : Nat} {ρ₁ : Env} (h : SimS k k' ρ₂ o o₂) (hf : Frame a b ρ₁ ρ₂) (hak : a ≤ k) (hbk : b ≤ k') :
    SimS a k' ρ₁ o o₂ :=
  ⟨h.res, h.log, h.agree, hf.comp h.frame hak hbk⟩
end

theorem simS_bindE {W : World} {e : Expr} (he : PExpr W e) {k a k2 : Nat} {ρ ρ₂ : Env} {l : Log}
    {K K₂ : Val → Env → Log → Res} (hu : userOnly e = true) (ha : Agree ρ ρ₂) (hka : k ≤ a) (h12 : (rw e k).2 ≤ k2)
    (hK : ∀ v ρ' ρ₂' l', Agree ρ' ρ₂' → SimS a k2 ρ₂' (K v ρ' l') (K₂ v ρ₂' l')) :
    SimS k k2 ρ₂ (bindE (eval W e ρ l) K) (bindE (eval W (rw e k).1 ρ₂ l) K₂) := by
  obtain ⟨ρ₂', h2, hag, hf⟩ := (he k ρ ρ₂ l hu ha).2.exists_env
  rw [h2]
  generalize eval W e ρ l = o at hag ⊢
  obtain ⟨ex | v, ρ', l'⟩ := o
  · exact ⟨rfl, rfl, hag, hf.widen (Nat.le_refl _) h12⟩
  · exact (hK v ρ' ρ₂' l' hag).after hf hka h12

theorem simS_bindO {k k1 a k2 : Nat} {ρ₂ : Env} {o o₂ : Res} {K K₂ : Env → Log → Res}
    (h : SimS k k1 ρ₂ o o₂) (hka : k ≤ a) (h12 : k1 ≤ k2)
    (hK : ∀ ρ' ρ₂' l', Agree ρ' ρ₂' → SimS a k2 ρ₂' (K ρ' l') (K₂ ρ₂' l')) :
    SimS k k2 ρ₂ (bindO o K) (bindO o₂ K₂) := by
  obtain ⟨ρ₂', rfl, hag, hf⟩ := h.exists_env
  obtain ⟨r, ρ', l'⟩ := o
  cases r with
  | normal => exact (hK ρ' ρ₂' l' hag).after hf hka h12
  | _ => exact ⟨rfl, rfl, hag, hf.widen (Nat.le_refl _) h12⟩

theorem simS_tryFin {k k1 k2 k3 : Nat} {ρ₂ : Env} {o o₂ : Res} {F F₂ K K₂ : Env → Log → Res}
    (h : SimS k k1 ρ₂ o o₂) (h01 : k ≤ k1) (h12 : k1 ≤ k2) (h23 : k2 ≤ k3)
    (hF : ∀ ρ' ρ₂' l', Agree ρ' ρ₂' → SimS k1 k2 ρ₂' (F ρ' l') (F₂ ρ₂' l'))
    (hK : ∀ ρ' ρ₂' l', Agree ρ' ρ₂' → SimS k2 k3 ρ₂' (K ρ' l') (K₂ ρ₂' l')) :
    SimS k k3 ρ₂ (tryFin o F K) (tryFin o₂ F₂ K₂) := by
  obtain ⟨ρ₂', rfl, hag, hf⟩ := h.exists_env
  obtain ⟨r, ρ', l'⟩ := o
  have hFs := hF ρ' ρ₂' l' hag
  have glue : ∀ {x x₂ : Res}, SimS k1 k3 ρ₂' x x₂ → SimS k k3 ρ₂ x x₂ := fun hx => hx.after hf h01 (Nat.le_trans h12 h23)
  cases r with
  | normal => exact glue (simS_bindO hFs h12 h23 hK)
  | returned v => exact glue (simS_bindO hFs h12 h23 fun _ _ l'' hag' => .ret (.returned v) l'' hag')
  | exn e => exact glue (simS_bindO hFs h12 h23 fun _ _ l'' hag' => .ret (.exn e) l'' hag')
  | fuel => exact ⟨rfl, rfl, hag, hf.widen (Nat.le_refl _) (Nat.le_trans h12 h23)⟩

mutual
theorem rwStmt_le : ∀ (s : Stmt) (k : Nat), k ≤ (rwStmt s k).2
  | .assign _ e, k | .expr e, k | .ret e, k => rw_le e k
  | .ite c thn els, k => Nat.le_trans (rw_le c k) (Nat.le_trans (rwS_le thn _) (rwS_le els _))
  | .while c body, k => Nat.le_trans (rw_le c k) (rwS_le body _)
  | .tryFinally body fin, k => Nat.le_trans (rwS_le body k) (rwS_le fin _)
  | .raise _, k | .pass, k => Nat.le_refl k
theorem rwS_le : ∀ (b : List Stmt) (k : Nat), k ≤ (rwS b k).2
  | [], k => Nat.le_refl k
  | s :: rest, k => Nat.le_trans (rwStmt_le s k) (rwS_le rest _)
end

/-- `rwStmt_le`; `W`, `ok` and the `userOnlyStmt` hypothesis are not used -/
theorem rwStmt_mono (W : World) (ok : WOK W) : ∀ (s : Stmt) (k : Nat), userOnlyStmt s = true → k ≤ (rwStmt s k).2 :=
  fun s k _ => have _ := ok; rwStmt_le s k

theorem pBlock (W : World) (ok : WOK W) : ∀ (n : Nat) (b : List Stmt) (k : Nat) (ρ ρ₂ : Env) (l : Log),
    userOnlyS b = true → Agree ρ ρ₂ → SimS k (rwS b k).2 ρ₂ (exec W n b ρ l) (exec W n (rwS b k).1 ρ₂ l) := by
  have pE := pExpr W ok
  intro n
  induction n with
  | zero => intro b k ρ ρ₂ l _ ha; cases b <;> exact .ret _ _ ha
  | succ n ih =>
    intro b k ρ ρ₂ l hu ha
    cases b with
    | nil => exact .ret _ _ ha
    | cons s rest =>
      obtain ⟨hus, hur⟩ := Bool.and_eq_true_iff.1 hu
      -- what follows the statement `s`, from the counter `c` that `s` leaves
      have hrest : ∀ c ρ' ρ₂' l', Agree ρ' ρ₂' →
          SimS c (rwS rest c).2 ρ₂' (exec W n rest ρ' l') (exec W n (rwS rest c).1 ρ₂' l') :=
        fun c ρ' ρ₂' l' hag => ih rest c ρ' ρ₂' l' hur hag
      cases s with
      | assign x e =>
        refine simS_bindE (pE e) hus ha (rw_le e k) (rwS_le rest _) fun v ρ' ρ₂' l' hag => ?_
        have h := hrest (rw e k).2 _ _ l' (hag.setUser x v)
        exact ⟨h.res, h.log, h.agree, h.frame.ofSetUser⟩
      | expr e => exact simS_bindE (pE e) hus ha (rw_le e k) (rwS_le rest _) fun _ _ _ _ hag => hrest _ _ _ _ hag
      | ret e => exact simS_bindE (pE e) hus ha (rw_le e k) (rwS_le rest _) fun _ _ _ _ hag => .ret _ _ hag
      | raise m => exact .ret _ _ ha
      | pass => exact hrest k ρ ρ₂ l ha
      | ite c thn els =>
        obtain ⟨huct, hue⟩ := Bool.and_eq_true_iff.1 hus
        obtain ⟨huc, hut⟩ := Bool.and_eq_true_iff.1 huct
        have m2 := rwS_le thn (rw c k).2
        have m3 := rwS_le els (rwS thn (rw c k).2).2
        have m4 := rwS_le rest (rwS els (rwS thn (rw c k).2).2).2
        show SimS k (rwS rest (rwS els (rwS thn (rw c k).2).2).2).2 ρ₂ (bindE (eval W c ρ l) _) (bindE (eval W (rw c k).1 ρ₂ l) _)
        refine simS_bindE (pE c) huc ha (rw_le c k) (by omega) fun v ρ' ρ₂' l' hag => ?_
        cases truthy v with
        | true => exact simS_bindO (ih thn (rw c k).2 ρ' ρ₂' l' hut hag) (by omega) (by omega) (hrest _)
        | false => exact (simS_bindO (ih els (rwS thn (rw c k).2).2 ρ' ρ₂' l' hue hag) m3 m4 (hrest _)).widen m2 (Nat.le_refl _)
      | «while» c body =>
        have hus := Bool.and_eq_true_iff.1 hus
        have m1 := rw_le c k
        have m2 := rwS_le body (rw c k).2
        have m3 := rwS_le rest (rwS body (rw c k).2).2
        show SimS k (rwS rest (rwS body (rw c k).2).2).2 ρ₂ (bindE (eval W c ρ l) _) (bindE (eval W (rw c k).1 ρ₂ l) _)
        refine simS_bindE (a := k) (pE c) hus.1 ha (Nat.le_refl _) (by omega) fun v ρ' ρ₂' l' hag => ?_
        cases truthy v with
        | true =>
          -- the next iteration: the induction hypothesis on the whole loop, from the same counter
          exact simS_bindO (a := k) ((ih body (rw c k).2 ρ' ρ₂' l' hus.2 hag).widen m1 (Nat.le_refl _)) (Nat.le_refl _) m3
            fun ρ' ρ₂' l' hag => ih (.while c body :: rest) k ρ' ρ₂' l' hu hag
        | false => exact (hrest (rwS body (rw c k).2).2 ρ' ρ₂' l' hag).widen (by omega) (Nat.le_refl _)
      | tryFinally body fin =>
        have hus := Bool.and_eq_true_iff.1 hus
        exact simS_tryFin (ih body k ρ ρ₂ l hus.1 ha) (rwS_le body k) (rwS_le fin _) (rwS_le rest _)
          (fun ρ' ρ₂' l' hag => ih fin _ ρ' ρ₂' l' hus.2 hag) (hrest _)

/-- C09 for statements: for every block written without the reserved temporaries and every fuel, the rewritten block
    ends the same way (normal completion / same returned value / same exception / out of fuel), with the same
    sequence of side effects, and leaves the user's variables identical. -/
theorem C09_stmt_preserves (W : World) (ok : WOK W) (fuel : Nat) (b : List Stmt) (ρ : Env) (l : Log)
    (hu : userOnlyS b = true) :
    (exec W fuel (rwS b 0).1 ρ l).1 = (exec W fuel b ρ l).1
      ∧ (exec W fuel (rwS b 0).1 ρ l).2.2 = (exec W fuel b ρ l).2.2
      ∧ Agree (exec W fuel b ρ l).2.1 (exec W fuel (rwS b 0).1 ρ l).2.1 := by
  have h := pBlock W ok fuel b 0 ρ ρ l hu (fun _ => rfl)
  exact ⟨h.res, h.log, h.agree⟩

mutual
theorem rwStmt_id_aux : ∀ (s : Stmt), noRecCallStmt s = true → ∀ k, rwStmt s k = (s, k)
  | .assign x e, h, k => by
    show (Stmt.assign x (rw e k).1, (rw e k).2) = _; rw [rw_of_noRecCall e h k]
  | .expr e, h, k => by
    show (Stmt.expr (rw e k).1, (rw e k).2) = _; rw [rw_of_noRecCall e h k]
  | .ret e, h, k => by
    show (Stmt.ret (rw e k).1, (rw e k).2) = _; rw [rw_of_noRecCall e h k]
  | .ite c thn els, h, k => by
    have h := Bool.and_eq_true_iff.1 h; simp only [Bool.and_eq_true] at h
    show (Stmt.ite (rw c k).1 (rwS thn (rw c k).2).1 (rwS els (rwS thn (rw c k).2).2).1, (rwS els (rwS thn (rw c k).2).2).2) = _
    rw [rw_of_noRecCall c h.1.1 k, rwS_id thn h.1.2, rwS_id els h.2]
  | .while c body, h, k => by
    have h := Bool.and_eq_true_iff.1 h
    show (Stmt.while (rw c k).1 (rwS body (rw c k).2).1, (rwS body (rw c k).2).2) = _
    rw [rw_of_noRecCall c h.1 k, rwS_id body h.2]
  | .tryFinally body fin, h, k => by
    have h := Bool.and_eq_true_iff.1 h
    show (Stmt.tryFinally (rwS body k).1 (rwS fin (rwS body k).2).1, (rwS fin (rwS body k).2).2) = _
    rw [rwS_id body h.1, rwS_id fin h.2]
  | .raise _, _, _ | .pass, _, _ => rfl
/-- a block that contains no call of the globals `recurse` / `call_next` is returned unchanged and consumes no
    temporary prefix -/
theorem rwS_id (b : List Stmt) (h : noRecCallS b = true) (k : Nat) : rwS b k = (b, k) :=
  match b, h with
  | [], _ => rfl
  | s :: rest, h => by
    have h := Bool.and_eq_true_iff.1 h
    show ((rwStmt s k).1 :: (rwS rest (rwStmt s k).2).1, (rwS rest (rwStmt s k).2).2) = _
    rw [rwStmt_id_aux s h.1 k, rwS_id rest h.2]
end

/-- `truthy` of Model/RewriteStmt.lean is the notion of truth of the conditional expression of `eval` (no proof uses this) -/
theorem eval_ite_truthy (W : World) (c a b : Expr) (ρ : Env) (l : Log) :
    eval W (.ite c a b) ρ l =
      match eval W c ρ l with
      | (.ok v, ρ', l') => if truthy v then eval W a ρ' l' else eval W b ρ' l'
      | (.error e, ρ', l') => (.error e, ρ', l') := by
  rw [eval_ite]; rcases eval W c ρ l with ⟨_ | (((_ | _) | _) | _), _, _⟩ <;> rfl

/-! ### a concrete run

```
x = 2
while x:
    try:
        y = recurse(tick a (x), p = tick b (1))
        x = x + -1
    finally:
        tick f (0)
return y + call_next(y)
``` -/
namespace Example
def b0 : List Stmt :=
  [.assign "x" (.lit 2),
   .while (.var (.user "x"))
     [.tryFinally
        [.assign "y" (.call (.glob "recurse") [.tick "a" (.var (.user "x"))] [("p", .tick "b" (.lit 1))]),
         .assign "x" (.add (.var (.user "x")) (.lit (-1)))]
        [.expr (.tick "f" (.lit 0))]],
   .ret (.add (.var (.user "y")) (.call (.glob "call_next") [.var (.user "y")] []))]

example : userOnlyS b0 = true := by decide +kernel

/-- prefix 0 for the `recurse(…)` in the loop (re-used by every iteration), 1 for the `call_next(…)` after it -/
example : rwS b0 0 =
    ([.assign "x" (.lit 2),
      .while (.var (.user "x"))
        [.tryFinally
           [.assign "y" (.call (.subscript (.glob "MAP") (.tuple
               [typeCall (.tmp 0 (.pos 0)) (.tick "a" (.var (.user "x"))),
                .pair "p" (typeCall (.tmp 0 (.kw "p")) (.tick "b" (.lit 1)))]))
              [.var (.tmp 0 (.pos 0))] [("p", .var (.tmp 0 (.kw "p")))]),
            .assign "x" (.add (.var (.user "x")) (.lit (-1)))]
           [.expr (.tick "f" (.lit 0))]],
      .ret (.add (.var (.user "y"))
        (.call (.subscript (.glob "MAP") (.tuple [.glob "CODE", typeCall (.tmp 1 (.pos 0)) (.var (.user "y"))]))
          [.var (.tmp 1 (.pos 0))] []))], 2) := by rfl

/-- the original and the rewritten run; the examples below are its parts -/
theorem b0_runs : ∀ r ∈ [exec W0 10 b0 ρ0 [], exec W0 10 (rwS b0 0).1 ρ0 []],
    r.1 = .returned (.int 28) ∧ r.2.2 = ["a", "b", "enter8", "f", "a", "b", "enter8", "f", "enter8"]
      ∧ r.2.1 (.user "y") = some (.int 19) ∧ r.2.1 (.user "x") = some (.int 0) := by decide +kernel

example : (exec W0 10 b0 ρ0 []).1 = .returned (.int 28) := (b0_runs _ (.head _)).1
example : (exec W0 10 (rwS b0 0).1 ρ0 []).1 = .returned (.int 28) := (b0_runs _ (.tail _ (.head _))).1
example : (exec W0 10 b0 ρ0 []).2.2 = ["a", "b", "enter8", "f", "a", "b", "enter8", "f", "enter8"] := (b0_runs _ (.head _)).2.1
example : (exec W0 10 (rwS b0 0).1 ρ0 []).2.2 = ["a", "b", "enter8", "f", "a", "b", "enter8", "f", "enter8"] :=
  (b0_runs _ (.tail _ (.head _))).2.1
example : (exec W0 10 b0 ρ0 []).2.1 (.user "y") = some (.int 19)
    ∧ (exec W0 10 (rwS b0 0).1 ρ0 []).2.1 (.user "y") = some (.int 19) :=
  ⟨(b0_runs _ (.head _)).2.2.1, (b0_runs _ (.tail _ (.head _))).2.2.1⟩
example : (exec W0 10 b0 ρ0 []).2.1 (.user "x") = some (.int 0)
    ∧ (exec W0 10 (rwS b0 0).1 ρ0 []).2.1 (.user "x") = some (.int 0) :=
  ⟨(b0_runs _ (.head _)).2.2.2, (b0_runs _ (.tail _ (.head _))).2.2.2⟩
/-- too little fuel to finish the second iteration: both versions stop at the same point (after the second
    `recurse(…)`, before `x = x + -1`; the `finally` block is not run for `Outcome.fuel`) -/
example : (exec W0 5 b0 ρ0 []).1 = .fuel ∧ (exec W0 5 (rwS b0 0).1 ρ0 []).1 = .fuel
    ∧ (exec W0 5 b0 ρ0 []).2.2 = ["a", "b", "enter8", "f", "a", "b", "enter8"]
    ∧ (exec W0 5 (rwS b0 0).1 ρ0 []).2.2 = ["a", "b", "enter8", "f", "a", "b", "enter8"] := by decide +kernel
/-- `rwS_id` does not apply to `b0` (it has call sites), it does to a block without them -/
example : noRecCallS b0 = false ∧ noRecCallS [Stmt.assign "x" (.lit 2), .pass] = true := by decide +kernel

/-- an exception in the `try` body: the `finally` block runs, then the exception propagates (the loop is left) -/
def b1 : List Stmt :=
  [.while (.lit 1)
     [.tryFinally
        [.expr (.call (.glob "recurse") [.tick "a" (.lit 1)] []), .raise 4, .expr (.tick "unreached" (.lit 0))]
        [.expr (.tick "f" (.lit 0))]]]
example : (exec W0 10 b1 ρ0 []).1 = .exn (.user 4) ∧ (exec W0 10 (rwS b1 0).1 ρ0 []).1 = .exn (.user 4) := by decide +kernel
example : (exec W0 10 b1 ρ0 []).2.2 = ["a", "enter7", "f"] ∧ (exec W0 10 (rwS b1 0).1 ρ0 []).2.2 = ["a", "enter7", "f"] := by
  decide +kernel
end Example

end Ovld.Rw

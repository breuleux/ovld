import Ovldverif.Lemmas.FnInv
/-!
# C05 — after register / unregister, behaviour equals a freshly built function (or table)
-/
set_option autoImplicit false
namespace Ovld

/-- operations on the public multi-type table -/
inductive TOp | reg (m : Meth) | get (ck : CKey Key)

def MMap.runOps (cfg : Cfg) (mm : MMap) : List TOp → MMap
  | [] => mm
  | .reg m :: rest => MMap.runOps cfg (mm.register m) rest
  | .get ck :: rest => MMap.runOps cfg (mm.lookup cfg ck).1 rest

def regsOf : List TOp → List Meth
  | [] => []
  | .reg m :: rest => m :: regsOf rest
  | .get _ :: rest => regsOf rest

theorem DistinctHandlers.left {a b : List Meth} (h : DistinctHandlers (a ++ b)) : DistinctHandlers a := by
  obtain ⟨h1, h2⟩ := h
  rw [List.map_append] at h1 h2
  exact ⟨(List.nodup_append.mp h1).1, (List.nodup_append.mp h2).1⟩

theorem MMap.runOps_inv (cfg : Cfg) : ∀ (ops : List TOp) (ms0 : List Meth) (mm : MMap),
    DistinctHandlers (ms0 ++ regsOf ops) → MInv cfg ms0 mm →
    MInv cfg (ms0 ++ regsOf ops) (MMap.runOps cfg mm ops)
  | [], ms0, mm, _, h => by
    show MInv cfg (ms0 ++ []) mm
    rw [List.append_nil]; exact h
  | .reg m :: rest, ms0, mm, hd, h => by
    have e : ms0 ++ regsOf (.reg m :: rest) = (ms0 ++ [m]) ++ regsOf rest := by
      show ms0 ++ m :: regsOf rest = _
      rw [List.append_assoc]; rfl
    rw [e] at hd ⊢
    exact MMap.runOps_inv cfg rest (ms0 ++ [m]) (mm.register m) hd (MMap.register_inv cfg ms0 m mm h)
  | .get ck :: rest, ms0, mm, hd, h => by
    have hd0 : DistinctHandlers ms0 := hd.left
    have ok := hd0.planOK cfg
    exact MMap.runOps_inv cfg rest ms0 _ hd (MMap.lookup_spec cfg ms0 ok mm h ck).2

/-- table level: after ANY interleaving of registrations and lookups (succeeding, ambiguous, unmatched,
    continuation keys), a lookup returns what it returns on a brand-new table on which the same entries were
    registered and nothing was ever looked up: no result or error computed before a change survives it -/
theorem C05_table (cfg : Cfg) (ops : List TOp) (hd : DistinctHandlers (regsOf ops)) (ck : CKey Key) :
    ((MMap.runOps cfg {} ops).lookup cfg ck).2 = ((MMap.fresh (regsOf ops)).lookup cfg ck).2 := by
  have h1 := MMap.runOps_inv cfg ops [] {} (by rw [List.nil_append]; exact hd) (MMap.fresh_inv cfg [])
  rw [List.nil_append] at h1
  exact h1.lookup_eq_fresh hd ck

/-- operations on an overloaded function -/
inductive FOp | reg (d : Def) | unreg (id : Nat) | call (c : Call)

def Fn.runOps (cfg : Cfg) (fn : Fn) : List FOp → Fn
  | [] => fn
  | .reg d :: rest => Fn.runOps cfg (fn.register d).1 rest
  | .unreg id :: rest => Fn.runOps cfg (fn.unregister id).1 rest
  | .call c :: rest => Fn.runOps cfg (fn.call cfg c).1 rest

/-- every registration / unregistration in the sequence was accepted: the function is never locked and the
    method set never becomes inconsistent (argument-name conflicts are C18's subject) -/
def Fn.opsAccepted (cfg : Cfg) (fn : Fn) : List FOp → Bool
  | [] => true
  | .reg d :: rest => (fn.register d).2.isNone && Fn.opsAccepted cfg (fn.register d).1 rest
  | .unreg id :: rest => (fn.unregister id).2.isNone && Fn.opsAccepted cfg (fn.unregister id).1 rest
  | .call c :: rest => Fn.outcome (fn.call cfg c) != .configError && Fn.opsAccepted cfg (fn.call cfg c).1 rest

theorem Fn.call_defns (cfg : Cfg) (fn : Fn) (c : Call) : (fn.call cfg c).1.defns = fn.defns := by
  cases hc : fn.compiled with
  | true => rw [Fn.call_mm cfg fn hc c]
  | false =>
    cases h : fn.compile with
    | error err => rw [Fn.call_uncompiled_err cfg fn err hc h c]
    | ok f =>
      obtain ⟨ana, _, hf⟩ := Fn.compile_ok fn f h
      have hfc : f.compiled = true := by rw [hf]
      rw [Fn.call_uncompiled_ok cfg fn f hc h hfc c, Fn.call_mm cfg f hfc c, hf]

/-- either never compiled (then the object is literally a new one carrying the definitions `ds`), or compiled with
    a successful analysis of `ds` and — whenever the handlers are distinct — the cache invariant `FInv`.
    Distinctness is only assumed where it is used: a (re)compilation re-establishes `FInv` from a blank table
    whatever was cached before. -/
def Fn.Good (cfg : Cfg) (ds : List (Def × Int)) (fn : Fn) : Prop :=
  fn = Fn.fresh ds ∨
  (fn.defns = ds ∧ fn.compiled = true ∧ ∃ ana, analyze (ds.map (·.1.d)) = .ok ana ∧
    (DistinctHandlers (Fn.methsOf ds) → FInv cfg ds ana fn))

theorem Fn.Good.defns {cfg : Cfg} {ds : List (Def × Int)} {fn : Fn} (hg : Fn.Good cfg ds fn) : fn.defns = ds := by
  rcases hg with rfl | ⟨h, _⟩
  · rfl
  · exact h

/-- `_update()`: recompile when already compiled -/
def Fn.update (fn' : Fn) : Fn × Option Outcome :=
  if fn'.compiled then
    match fn'.compile with
    | .ok f => (f, none)
    | .error _ => (fn', some .configError)
  else (fn', none)

theorem Fn.update_defns (fn' : Fn) : (Fn.update fn').1.defns = fn'.defns := by
  unfold Fn.update
  cases fn'.compiled with
  | false => rfl
  | true =>
    simp only [↓reduceIte]
    cases h : fn'.compile with
    | error _ => rfl
    | ok f =>
      obtain ⟨ana, _, hf⟩ := Fn.compile_ok fn' f h
      show f.defns = _
      rw [hf]

theorem Fn.update_good (cfg : Cfg) (fn' : Fn) (hfr : fn'.compiled = false → fn' = Fn.fresh fn'.defns)
    (h : (Fn.update fn').2.isNone = true) : Fn.Good cfg fn'.defns (Fn.update fn').1 := by
  unfold Fn.update at h ⊢
  cases hc : fn'.compiled with
  | false =>
    rw [hc] at h
    exact Or.inl (hfr hc)
  | true =>
    rw [hc] at h
    simp only [↓reduceIte] at h ⊢
    cases hcomp : fn'.compile with
    | error _ => rw [hcomp] at h; cases h
    | ok f =>
      obtain ⟨ana, ha, hf⟩ := Fn.compile_ok fn' f hcomp
      show Fn.Good cfg fn'.defns f
      subst hf
      exact Or.inr ⟨rfl, rfl, ana, ha, fun _ => ⟨rfl, rfl, rfl, MMap.fresh_inv _ _⟩⟩

theorem Fn.register_accepted (fn : Fn) (d : Def) (h : (fn.register d).2.isNone = true) :
    fn.register d = Fn.update { fn with defns := setDefn (fn.defns.length + 1) fn.defns d 0 } := by
  unfold Fn.register at h ⊢
  split at h
  · cases h
  · split at h
    · cases h
    · rename_i h1 h2
      rw [if_neg h1, if_neg h2]
      rfl

theorem Fn.unregister_accepted (fn : Fn) (id : Nat) (h : (fn.unregister id).2.isNone = true) :
    fn.unregister id = Fn.update { fn with defns := fn.defns.filter (fun e => e.1.d.id != id) } := by
  unfold Fn.unregister at h ⊢
  split at h
  · cases h
  · rename_i h1
    rw [if_neg h1]
    rfl

theorem Fn.fresh_compiled (fn : Fn) (h : fn = Fn.fresh fn.defns) : fn.compiled = false := by
  rw [h]; rfl

theorem Fn.setDefns_update_good (cfg : Cfg) (ds0 : List (Def × Int)) (fn : Fn) (hg : Fn.Good cfg ds0 fn)
    (ds : List (Def × Int)) (h : (Fn.update { fn with defns := ds }).2.isNone = true) :
    Fn.Good cfg (Fn.update { fn with defns := ds }).1.defns (Fn.update { fn with defns := ds }).1 := by
  rw [Fn.update_defns]
  refine Fn.update_good cfg _ ?_ h
  intro hc
  rcases hg with hf | ⟨_, hc', _⟩
  · rw [hf]; rfl
  · have : fn.compiled = false := hc
    rw [hc'] at this; cases this

theorem Fn.register_good (cfg : Cfg) (ds : List (Def × Int)) (fn : Fn) (d : Def) (hg : Fn.Good cfg ds fn)
    (h : (fn.register d).2.isNone = true) : Fn.Good cfg (fn.register d).1.defns (fn.register d).1 := by
  have e := Fn.register_accepted fn d h
  rw [e] at h ⊢
  exact Fn.setDefns_update_good cfg ds fn hg _ h

theorem Fn.unregister_good (cfg : Cfg) (ds : List (Def × Int)) (fn : Fn) (id : Nat) (hg : Fn.Good cfg ds fn)
    (h : (fn.unregister id).2.isNone = true) : Fn.Good cfg (fn.unregister id).1.defns (fn.unregister id).1 := by
  have e := Fn.unregister_accepted fn id h
  rw [e] at h ⊢
  exact Fn.setDefns_update_good cfg ds fn hg _ h

theorem Fn.call_good (cfg : Cfg) (ds : List (Def × Int)) (fn : Fn) (c : Call) (hg : Fn.Good cfg ds fn) :
    Fn.Good cfg ds (fn.call cfg c).1 := by
  rcases hg with rfl | ⟨hd, hc, ana, ha, hi⟩
  · -- the first call compiles, or fails to and leaves the object as it is
    cases ha : analyze (ds.map (·.1.d)) with
    | error err => rw [Fn.call_fresh_err cfg ds err ha c]; exact Or.inl rfl
    | ok ana =>
      rw [Fn.call_fresh_ok cfg ds ana ha c]
      have hm := Fn.call_mm cfg (Fn.built ds ana) rfl c
      exact Or.inr ⟨by rw [hm]; rfl, by rw [hm]; rfl, ana, ha,
        fun hdist => (Fn.built_inv cfg ds ana).call cfg ds ana (hdist.planOK _) c⟩
  · have hm := Fn.call_mm cfg fn hc c
    exact Or.inr ⟨by rw [hm]; exact hd, by rw [hm]; exact hc, ana, ha,
      fun hdist => (hi hdist).call cfg ds ana (hdist.planOK _) c⟩

theorem Fn.runOps_good (cfg : Cfg) : ∀ (ops : List FOp) (ds : List (Def × Int)) (fn : Fn), Fn.Good cfg ds fn →
    Fn.opsAccepted cfg fn ops = true → Fn.Good cfg (Fn.runOps cfg fn ops).defns (Fn.runOps cfg fn ops)
  | [], _, _, hg, _ => hg.defns ▸ hg
  | .reg d :: rest, ds, fn, hg, hacc => by
    have h := Bool.and_eq_true_iff.mp hacc
    exact Fn.runOps_good cfg rest _ _ (Fn.register_good cfg ds fn d hg h.1) h.2
  | .unreg id :: rest, ds, fn, hg, hacc => by
    have h := Bool.and_eq_true_iff.mp hacc
    exact Fn.runOps_good cfg rest _ _ (Fn.unregister_good cfg ds fn id hg h.1) h.2
  | .call c :: rest, ds, fn, hg, hacc => by
    have h := Bool.and_eq_true_iff.mp hacc
    exact Fn.runOps_good cfg rest ds _ (Fn.call_good cfg ds fn c hg) h.2

/-- function level: after any sequence of registrations, re-registrations, unregistrations and calls, a call
    behaves (outcome and entered method bodies with the argument objects they receive) exactly as on a
    brand-new function object carrying the resulting definitions, never called before -/
theorem C05_fn (cfg : Cfg) (ops : List FOp) (hacc : Fn.opsAccepted cfg {} ops = true)
    (hd : DistinctHandlers (Fn.methsOf (Fn.runOps cfg {} ops).defns)) (c : Call) :
    Fn.outcome ((Fn.runOps cfg {} ops).call cfg c) = Fn.outcome ((Fn.fresh (Fn.runOps cfg {} ops).defns).call cfg c) ∧
    Fn.trace ((Fn.runOps cfg {} ops).call cfg c) = Fn.trace ((Fn.fresh (Fn.runOps cfg {} ops).defns).call cfg c) := by
  have hg := Fn.runOps_good cfg ops [] {} (Or.inl rfl) hacc
  generalize Fn.runOps cfg {} ops = fn at hg hd ⊢
  rcases hg with hf | ⟨_, hc, ana, ha, hi⟩
  · have e1 : fn.call cfg c = (Fn.fresh fn.defns).call cfg c := congrArg (fun f => f.call cfg c) hf
    rw [e1]
    exact ⟨rfl, rfl⟩
  · rw [Fn.call_fresh_ok cfg _ ana ha c]
    have r := call_rel cfg _ ana (hd.planOK _) fn (Fn.built fn.defns ana) (hi hd) (Fn.built_inv cfg _ ana) c
    exact ⟨r.outcome, r.trace⟩

def regDefs : List FOp → List Def
  | [] => []
  | .reg d :: rest => d :: regDefs rest
  | .unreg _ :: rest => regDefs rest
  | .call _ :: rest => regDefs rest

def noUnreg : List FOp → Bool
  | [] => true
  | .unreg _ :: _ => false
  | _ :: rest => noUnreg rest

theorem Fn.register_plain (fn : Fn) (d : Def) (hc : fn.compiled = false) (hl : fn.locked = false)
    (hr : fn.allowReplacement = true) :
    fn.register d = ({ fn with defns := setDefn (fn.defns.length + 1) fn.defns d 0 }, none) := by
  unfold Fn.register
  rw [hc, hl, hr]
  rfl

theorem Fn.runOps_defns_register_only (cfg : Cfg) : ∀ (ops : List FOp) (fn1 fn2 : Fn),
    noUnreg ops = true → Fn.opsAccepted cfg fn1 ops = true → fn1.defns = fn2.defns →
    fn2.compiled = false → fn2.locked = false → fn2.allowReplacement = true →
    (Fn.runOps cfg fn1 ops).defns = (Fn.runOps cfg fn2 ((regDefs ops).map FOp.reg)).defns
  | [], _, _, _, _, he, _, _, _ => he
  | .reg d :: rest, fn1, fn2, hn, hacc, he, hc, hl, hr => by
    have h := Bool.and_eq_true_iff.mp hacc
    have e1 := Fn.register_accepted fn1 d h.1
    have e2 := Fn.register_plain fn2 d hc hl hr
    show (Fn.runOps cfg (fn1.register d).1 rest).defns =
      (Fn.runOps cfg (fn2.register d).1 ((regDefs rest).map FOp.reg)).defns
    refine Fn.runOps_defns_register_only cfg rest _ _ hn h.2 ?_ ?_ ?_ ?_
    · rw [e1, e2, Fn.update_defns, he]
    · rw [e2]; exact hc
    · rw [e2]; exact hl
    · rw [e2]; exact hr
  | .unreg _ :: _, _, _, hn, _, _, _, _, _ => by cases hn
  | .call c :: rest, fn1, fn2, hn, hacc, he, hc, hl, hr => by
    have h := Bool.and_eq_true_iff.mp hacc
    exact Fn.runOps_defns_register_only cfg rest _ fn2 hn h.2 ((Fn.call_defns cfg fn1 c).trans he) hc hl hr

/-- without unregistrations the resulting definitions are exactly what registering the same functions in the
    same order on a new object produces (calls in between are irrelevant) -/
theorem C05_defns_register_only (cfg : Cfg) (ops : List FOp) (hn : noUnreg ops = true)
    (hacc : Fn.opsAccepted cfg {} ops = true) :
    (Fn.runOps cfg {} ops).defns = (Fn.runOps cfg {} ((regDefs ops).map FOp.reg)).defns :=
  Fn.runOps_defns_register_only cfg ops {} {} hn hacc rfl rfl rfl rfl

end Ovld

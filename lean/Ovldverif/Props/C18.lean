import Ovldverif.Model.Build
import Ovldverif.Lemmas.ListFacts
/-!
# C18 — a failed build never leaves a half-built function in service

`Safe s`: the generated entry point is in service only together with a complete table: either the first-call
trampoline is installed (every call then starts by building everything again, and reports the problem again
if it persists) or the function is flagged built, its entry point was generated from the current method set and
its table holds exactly the current method set.

The theorems quantify over every method set, every set of invalid methods (`Cfg.bad`, `Cfg.namesOK`), every
micro-step at which an interrupt strikes (`fault : Option Nat` of every operation) and every history of
register / unregister / call operations, each with its own fault, outside the window `Op.inGap`
(`C18_gap_counterexample`).
-/
set_option autoImplicit false
namespace Ovld.Build

def AllGood (cfg : Cfg) (ds : List Nat) : Prop := cfg.namesOK ds = true ∧ ∀ d ∈ ds, cfg.bad d = false

def Safe (s : S) : Prop :=
  (s.entry = none ∧ s.compiled = false) ∨ (s.compiled = true ∧ s.entry = some s.defns ∧ s.table = s.defns)

/-- what `fill` returns when it completes -/
def FillOK (cfg : Cfg) (table ds : List Nat) (r : List Nat × Bool × Option Nat) : Prop :=
  r.2.1 = true → r.1 = table ++ ds ∧ ∀ d ∈ ds, cfg.bad d = false

theorem fill_ok (cfg : Cfg) : ∀ (ds table : List Nat) (f : Option Nat), FillOK cfg table ds (fill cfg table ds f)
  | [], table, _ => fun _ => ⟨(List.append_nil table).symm, nofun⟩
  | d :: ds, table, f => by
    -- `ite_of` sees the two tests of `fill … (d :: ds) …` by computation
    refine ite_of nofun fun _ => ite_of nofun fun hb h => ?_
    obtain ⟨h1, h2⟩ := fill_ok cfg ds _ _ h
    exact ⟨h1.trans (List.append_cons table d ds).symm, List.forall_mem_cons.2 ⟨Bool.eq_false_iff.2 hb, h2⟩⟩

theorem fill_complete (cfg : Cfg) : ∀ (ds table : List Nat),
    (∀ d ∈ ds, cfg.bad d = false) → fill cfg table ds none = (table ++ ds, true, none)
  | [], table, _ => by rw [List.append_nil]; rfl
  | d :: ds, table, h => by
    obtain ⟨hd, hds⟩ := List.forall_mem_cons.1 h
    rw [List.append_cons, ← fill_complete cfg ds _ hds]
    exact if_neg (Bool.eq_false_iff.1 hd)   -- `strikes none` and `dec none` compute

def built (s : S) : S := { s with compiled := true, entry := some s.defns, table := s.defns }

theorem built_safe (s : S) : Safe (built s) := Or.inr ⟨rfl, rfl, rfl⟩

theorem handler_safe (s : S) : Safe (handler s) := Or.inl ⟨rfl, rfl⟩

/-- what `compileRaw` returns -/
def RawOK (cfg : Cfg) (s : S) (r : S × Bool × Option Nat) : Prop :=
  r.1.defns = s.defns ∧ (r.2.1 = true → r.1 = built s ∧ AllGood cfg s.defns)

theorem compileRaw_ok (cfg : Cfg) (s : S) (f : Option Nat) : RawOK cfg s (compileRaw cfg s f) := by
  -- case7: the complete run; `hn`: the names passed their check, `hfill : fill … = (t, true, f1)`
  fun_cases compileRaw cfg s f with
  | case7 _ _ _ _ _ hn t f1 hfill =>
    obtain ⟨rfl, hb⟩ := (hfill ▸ fill_ok cfg s.defns [] (dec (dec f)) : FillOK cfg [] s.defns (t, true, f1)) rfl
    exact ⟨rfl, fun _ => ⟨rfl, Bool.of_not_eq_false fun h => hn (congrArg (!·) h), hb⟩⟩
  | _ => exact ⟨rfl, nofun⟩

theorem compile_cases (cfg : Cfg) (s : S) (f : Option Nat) :
    (∃ f', compile cfg s f = (built s, true, f') ∧ AllGood cfg s.defns) ∨
      (∃ s' f', compile cfg s f = (handler s', false, f') ∧ s'.defns = s.defns) := by
  have h := compileRaw_ok cfg s f
  unfold compile
  generalize compileRaw cfg s f = r at h ⊢
  obtain ⟨s', b, f'⟩ := r
  cases b
  · exact .inr ⟨s', f', rfl, h.1⟩
  · obtain ⟨rfl, hg⟩ := h.2 rfl
    exact .inl ⟨f', rfl, hg⟩

/-- whatever state a build starts from and wherever it fails, it ends `Safe`; it never changes the definitions -/
theorem compile_safe (cfg : Cfg) (s : S) (f : Option Nat) :
    Safe (compile cfg s f).1 ∧ (compile cfg s f).1.defns = s.defns := by
  rcases compile_cases cfg s f with ⟨f', h, _⟩ | ⟨s', f', h, hd⟩ <;> rw [h]
  · exact ⟨built_safe s, rfl⟩
  · exact ⟨handler_safe s', hd⟩

theorem compile_succeeds (cfg : Cfg) (s : S) (h : AllGood cfg s.defns) : (compile cfg s none).2.1 = true := by
  have hf := fill_complete cfg s.defns [] h.2
  simp [compile, compileRaw, strikes, dec, h.1, hf]

theorem safe_of_entry_none {s : S} (h : s.entry = none) (hc : s.compiled = false) : Safe s := Or.inl ⟨h, hc⟩

/-- what `_update` needs of a function whose definitions just changed -/
def Pre (s : S) : Prop := s.compiled = false → s.entry = none

theorem Safe.pre {s : S} (h : Safe s) : Pre s := fun hc =>
  h.elim (·.1) fun h' => absurd (h'.1.symm.trans hc) nofun

theorem pre_of_safe {s : S} (h : Safe s) (ds : List Nat) : Pre { s with defns := ds } := h.pre

theorem Pre.safe_of_unbuilt {s : S} (h : Pre s) (hc : ¬ s.compiled = true) : Safe s :=
  safe_of_entry_none (h (Bool.eq_false_iff.2 hc)) (Bool.eq_false_iff.2 hc)

/-- the state after the "rebuild if built" of every `_update` (`update_fst`, `rebuildP_fst`, `updChild_fst`) -/
theorem rebuild_safe (cfg : Cfg) (s : S) (f : Option Nat) (hs : Pre s) :
    Safe (if s.compiled then (compile cfg s f).1 else s) ∧ (if s.compiled then (compile cfg s f).1 else s).defns = s.defns := by
  split
  · exact compile_safe cfg s f
  · exact ⟨hs.safe_of_unbuilt ‹_›, rfl⟩

/-- on a `Safe` function both routes do the same -/
theorem call_cases (cfg : Cfg) (s : S) (r : Route) (f : Option Nat) (hs : Safe s) :
    (call cfg s r f = (built s, .served s.defns s.defns) ∧ (s.compiled = false → AllGood cfg s.defns)) ∨
      (∃ s', call cfg s r f = (handler s', .error) ∧ s'.defns = s.defns ∧ (f = none → ¬ AllGood cfg s.defns)) := by
  rcases hs with ⟨he, hc⟩ | ⟨hc, he, ht⟩
  · rcases compile_cases cfg s f with ⟨f', h, hg⟩ | ⟨s', f', h, hd⟩
    · exact .inl ⟨by cases r <;> simp only [call, dispatchCall, *] <;> rfl, fun _ => hg⟩
    · refine .inr ⟨s', by cases r <;> simp only [call, dispatchCall, *] <;> rfl, hd, ?_⟩
      rintro rfl hg
      exact nomatch (congrArg (·.2.1) h).symm.trans (compile_succeeds cfg s hg)
  · obtain ⟨ds, c, e, t⟩ := s
    dsimp only at hc he ht
    subst hc he ht
    exact .inl ⟨by cases r <;> rfl, nofun⟩

theorem update_fst (cfg : Cfg) (s : S) (f : Option Nat) :
    (update cfg s f).1 = if s.compiled then (compile cfg s f).1 else s := by
  unfold update
  split
  · generalize compile cfg s f = r
    obtain ⟨s', b, f'⟩ := r
    cases b <;> rfl
  · rfl

theorem update_safe (cfg : Cfg) (s : S) (f : Option Nat) (hs : Pre s) : Safe (update cfg s f).1 :=
  update_fst cfg s f ▸ (rebuild_safe cfg s f hs).1

/-- `_register` and `unregister` alike: the statement is their common body, to which both unfold (`C18_step_safe`);
    budget `some 1` is the window of finding D34 -/
theorem redefine_safe (cfg : Cfg) (s : S) (ds : List Nat) (hs : Safe s) : ∀ f : Option Nat,
    (f = some 1 → s.compiled = false) →
    Safe (if strikes f then (s, Out.error) else
      if strikes (dec f) then ({ s with defns := ds }, Out.error) else update cfg { s with defns := ds } (dec (dec f))).1
  | none, _ | some (_ + 2), _ => update_safe cfg _ _ (pre_of_safe hs ds)
  | some 0, _ => hs
  | some 1, h => safe_of_entry_none (hs.pre (h rfl)) (h rfl)

/-- **later calls** (through the function object or through the dispatch function, themselves possibly
    interrupted) either fail or are answered by the entry point of the complete method set over the complete
    table — never over a partially filled one — and leave the function `Safe` -/
theorem C18_call (cfg : Cfg) (s : S) (r : Route) (f : Option Nat) (hs : Safe s) :
    ((call cfg s r f).2 = .error ∨ (call cfg s r f).2 = .served s.defns s.defns) ∧
      Safe (call cfg s r f).1 ∧ (call cfg s r f).1.defns = s.defns := by
  rcases call_cases cfg s r f hs with ⟨h, _⟩ | ⟨s', h, hd, _⟩ <;> rw [h]
  · exact ⟨.inr rfl, built_safe s, rfl⟩
  · exact ⟨.inl rfl, handler_safe s', hd⟩

/-- **C18, one step**: every operation, interrupted anywhere outside the D34 window or failing naturally anywhere,
    keeps the function `Safe` -/
theorem C18_step_safe (cfg : Cfg) (s : S) (op : Op) (hs : Safe s) (hg : op.inGap s = false) :
    Safe (step cfg s op).1 := by
  cases op with
  | call r f => exact (C18_call cfg s r f hs).2.1
  | register d f | unregister d f => exact redefine_safe cfg s _ hs f fun h => by subst h; exact hg

theorem runOps_safe (cfg : Cfg) : ∀ (ops : List Op) (s : S), Safe s → opsNoGap cfg s ops = true →
    Safe (runOps cfg s ops)
  | [], _, hs, _ => hs
  | op :: rest, s, hs, hg => by
    obtain ⟨h1, h2⟩ := Bool.and_eq_true_iff.1 hg
    exact runOps_safe cfg rest _ (C18_step_safe cfg s op hs (Bool.not_inj h1)) h2

/-- **C18, every history** of registrations, removals and calls, each interrupted at an arbitrary micro-step -/
theorem C18_safe (cfg : Cfg) (ops : List Op) (hg : opsNoGap cfg {} ops = true) : Safe (runOps cfg {} ops) :=
  runOps_safe cfg ops {} (Or.inl ⟨rfl, rfl⟩) hg

/-- **once the offending method is removed the function works normally** -/
theorem C18_recovers (cfg : Cfg) (s : S) (r : Route) (hs : Safe s) (hg : AllGood cfg s.defns) :
    (call cfg s r none).2 = .served s.defns s.defns := by
  rcases call_cases cfg s r none hs with ⟨h, _⟩ | ⟨s', _, _, hn⟩
  · rw [h]
  · exact absurd hg (hn rfl)

/-- an uninterrupted call fails only if the method set really contains an offending method -/
theorem C18_error_is_configuration (cfg : Cfg) (s : S) (r : Route) (hs : Safe s)
    (he : (call cfg s r none).2 = .error) : ¬ AllGood cfg s.defns := fun hg =>
  nomatch (C18_recovers cfg s r hs hg).symm.trans he

/-- the excluded window is real (finding D34): register on a built function, interrupted between the change of the
    definitions and the rebuild, leaves the old table in service -/
theorem C18_gap_counterexample :
    let cfg : Cfg := ⟨fun _ => false, fun _ => true⟩
    let s := runOps cfg {} [.register 1 none, .call .obj none, .register 2 (some 1)]
    ¬ Safe s ∧ (call cfg s .obj none).2 = .served [1] [1] ∧ s.defns = [1, 2] := by
  intro cfg s
  exact ⟨by unfold Safe; decide +kernel, by decide +kernel, by decide +kernel⟩

/-- non-vacuity: a history with a natural failure, an interrupt in the middle of the fill loop and a removal.
    Budget `some 3` of the third operation: one tick for `table := []`, one for the argument analysis, one for the
    registration of method 1, and the interrupt strikes before method 2 is registered (last conjunct: the state the
    handler finds has the half-filled table `[1]` and still the trampoline as entry point). -/
example :
    let cfg : Cfg := ⟨fun d => d == 3, fun _ => true⟩
    let ops : List Op := [.register 1 none, .register 2 none, .call .fn (some 3), .register 3 none, .call .obj none,
      .unregister 3 none, .call .fn none]
    opsNoGap cfg {} ops = true ∧ (runOps cfg {} ops).table = [1, 2] ∧
      (step cfg (runOps cfg {} (ops.take 4)) (.call .obj none)).2 = .error ∧
      (compileRaw cfg (runOps cfg {} (ops.take 2)) (some 3)).1 = { defns := [1, 2], table := [1] } := by
  decide +kernel

end Ovld.Build

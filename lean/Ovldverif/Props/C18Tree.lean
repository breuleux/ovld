import Ovldverif.Props.C18Forest
/-!
# C18 for a function with a linked variant

`Props/C18.lean` proves that one function is never left half-built.  A linked variant (`linkback=True`,
`@extend_super`) is rebuilt by its parent's `_update`; these theorems are about the pair (model:
`Model/BuildTree.lean`), under any history of registrations / removals on the function, registrations on the variant
and calls of either, with natural failures and with an interrupt inside any of the builds.

The pair is the forest of `Model/BuildForest.lean` with exactly one variant, operation by operation (states:
`stepT_toF`, answers: `stepT_callC_out`; `T.eff` is the variant's `Child.eff` by unfolding); the theorems about it are
those of `Props/C18Forest.lean` read through this correspondence, which is why this file imports that one.
-/
set_option autoImplicit false
namespace Ovld.Build

def T.toF (t : T) : F := { p := t.p, cs := [{ c := t.c, own := t.own }] }

def TOp.toF : TOp → FOp
  | .regP d ip ic => .regP d ip [ic]
  | .unregP d ip ic => .unregP d ip [ic]
  | .regC d ic => .regC 0 d ic
  | .callP r ip => .callP r ip
  | .callC r ic => .callC 0 r ic

theorem T.safe_toF (t : T) : t.toF.safe = t.safe := by
  simp only [F.safe, T.safe, T.toF, Child.safe, Child.eff, T.eff, List.all_cons, List.all_nil, Bool.and_true,
    Bool.and_assoc]

theorem updateC_toF (cfg : Cfg) (t : T) (ic : Bool) :
    (updateC cfg t ic).1.toF = { p := t.p, cs := [(updChild cfg t.p { c := t.c, own := t.own } ic).1] } := by
  unfold updateC updChild
  split <;> rfl

theorem updateP_toF (cfg : Cfg) (t : T) (ip ic : Bool) :
    (updateP cfg t ip ic).1.toF = (updateF updAll cfg t.toF ip [ic]).1 := by
  unfold updateP
  have : (if t.p.compiled = true then match compile cfg t.p (intr ip) with | (s', ok, _) => (s', ok) else (t.p, true))
      = rebuildP cfg t.p ip := rfl
  rw [this]
  exact updateC_toF cfg _ ic

theorem stepT_toF (cfg : Cfg) (t : T) (op : TOp) : (stepT cfg t op).1.toF = (stepF cfg t.toF op.toF).1 := by
  cases op with
  | regP d ip ic | unregP d ip ic => exact updateP_toF cfg _ ip ic
  | regC d ic => exact updateC_toF cfg _ ic
  | callP r ip | callC r ic => rfl

theorem runT_toF (cfg : Cfg) : ∀ (ops : List TOp) (t : T), (runT cfg t ops).toF = runF cfg t.toF (ops.map TOp.toF)
  | [], _ => rfl
  | op :: rest, t => (runT_toF cfg rest _).trans (congrArg (runF cfg · _) (stepT_toF cfg t op))

/-- **every history**: the function and its linked variant are never left serving anything but the complete set of
    definitions they are to be built from -/
theorem C18_tree (cfg : Cfg) (ops : List TOp) : (runT cfg {} ops).safe = true := by
  rw [← T.safe_toF, runT_toF]
  exact runF_safe cfg _ _ rfl

theorem stepT_callC_out (cfg : Cfg) (t : T) (r : Route) (ic : Bool) :
    (stepT cfg t (.callC r ic)).2 = (stepF cfg t.toF (.callC 0 r ic)).2 := rfl

/-- **later calls of the variant** either fail or are answered by the entry point of the complete merged method set
    over the complete table -/
theorem C18_tree_call (cfg : Cfg) (ops : List TOp) (r : Route) (ic : Bool) :
    let t := runT cfg {} ops
    (stepT cfg t (.callC r ic)).2 = .error ∨ (stepT cfg t (.callC r ic)).2 = .served t.eff t.eff := by
  intro t
  rw [stepT_callC_out]
  exact (F.callC_served cfg ((T.safe_toF t).trans (C18_tree cfg ops)) (i := 0) rfl r ic).1

/-- **once the offending method is removed the variant works normally** -/
theorem C18_tree_recovers (cfg : Cfg) (ops : List TOp) (r : Route)
    (hg : AllGood cfg (runT cfg {} ops).eff) :
    let t := runT cfg {} ops
    (stepT cfg t (.callC r false)).2 = .served t.eff t.eff := by
  intro t
  rw [stepT_callC_out]
  exact (F.callC_served cfg ((T.safe_toF t).trans (C18_tree cfg ops)) (i := 0) rfl r false).2 rfl hg

/-- finding D41, on the `_update` before its `fix:` (`updateOld`): one interrupted rebuild of the function leaves the
    variant in service over the previous definitions (`[1]` instead of `[1, 2]`), and its calls are answered from
    them -/
theorem C18_tree_old_counterexample :
    let cfg : Cfg := ⟨fun _ => false, fun _ => true⟩
    let ops : List TOp := [.regP 1 false false, .callP .obj false, .callC .fn false, .regP 2 true false]
    (runOld cfg {} ops).safe = false ∧
      (stepOld cfg (runOld cfg {} ops) (.callC .fn false)).2 = .served [1] [1] ∧
      (runOld cfg {} ops).eff = [1, 2] ∧
      (runT cfg {} ops).safe = true ∧
      (stepT cfg (runT cfg {} ops) (.callC .fn false)).2 = .served [1, 2] [1, 2] := by
  decide +kernel

/-- non-vacuity: a history with a natural failure on the function, an interrupt inside the variant's rebuild, a
    registration on the variant and a removal -/
example :
    let cfg : Cfg := ⟨fun d => d == 9, fun _ => true⟩
    let ops : List TOp := [.regP 1 false false, .callC .obj false, .regC 5 false, .regP 9 false false,
      .callC .fn false, .unregP 9 false true, .callP .obj false, .callC .obj false]
    (runT cfg {} ops).safe = true ∧ (runT cfg {} ops).c.table = [1, 5] ∧
      (stepT cfg (runT cfg {} (ops.take 4)) (.callC .fn false)).2 = .error := by
  decide +kernel

end Ovld.Build

import Ovldverif.Props.C08
/-!
# C20 in derivation graphs — what a function has handled stays handled while nobody's methods change

`C20_fn` is about one function.  Here the function is a node of an arbitrary derivation graph (copies, variants,
mixins, linked or not): once a call on node `n` has succeeded, ANY sequence of later calls on ANY nodes of the graph —
the lazy first builds of parents, children and siblings included — leaves node `n` warm: the same call resolves
nothing (`nres = 0`: no candidate search, no user predicate, no order hook).  Calls change no method set; the theorem
says in particular that a build of some other function never rebuilds, or empties the cache of, this one.
-/
set_option autoImplicit false
namespace Ovld

/-- a table in service over the definitions `B` (analysis `A`) whose cache contains everything `mm1` holds -/
structure Tab.Warm (cfg : Cfg) (t : Tab) (B : List (Def × Int)) (A : Analysis) (mm1 : MMap) : Prop where
  compiled : t.compiled = true
  inv : FInv cfg B A t.view
  le : MMap.Le (Fn.cfgOf cfg B) mm1 t.mm

section
variable {cfg : Cfg} {n : Nat} {B : List (Def × Int)} {A : Analysis} {mm1 : MMap}

theorem Tab.Warm.call {g : Graph} (h : (g.tb n).Warm cfg B A mm1) (hd : DistinctHandlers (Fn.methsOf B)) (m : Nat) (c : Call) :
    ((g.call cfg m c).1.tb n).Warm cfg B A mm1 := by
  by_cases hne : n = m
  · subst hne
    obtain ⟨hv, hle⟩ := Tab.view_call h.inv hd c
    rw [Graph.call_compiled cfg g n c h.compiled, Graph.serve_tb, if_pos ⟨rfl, Graph.cp_lt g n h.compiled⟩]
    exact ⟨h.compiled, hv, h.le.trans hle⟩
  · rw [Graph.call_tb_ne cfg g m c n hne]
    exact h

theorem Tab.Warm.calls (hd : DistinctHandlers (Fn.methsOf B)) : ∀ (later : List (Nat × Call)) (g : Graph), (g.tb n).Warm cfg B A mm1 →
    ((later.foldl (fun g' mc => (g'.call cfg mc.1 mc.2).1) g).tb n).Warm cfg B A mm1
  | [], _, h => h
  | mc :: rest, _, h => Tab.Warm.calls hd rest _ (h.call hd mc.1 mc.2)

end

/-- **node level**: on any graph satisfying the invariants, after a successful call on node `n`, any later calls on
    any nodes leave the same call on `n` free of any resolution -/
theorem Graph.warm_after_call (cfg : Cfg) (g : Graph) (hi : Inv g) (ht : AllOK cfg g) (n : Nat) (hn : n < g.len)
    (hd : DistinctHandlers (Fn.methsOf (g.defns g.depth n))) (c : Call) (id : Nat)
    (hran : (g.call cfg n c).2.1 = .ran id) (later : List (Nat × Call)) :
    ((later.foldl (fun g' mc => (g'.call cfg mc.1 mc.2).1) (g.call cfg n c).1).call cfg n c).2.2.2 = 0 := by
  rcases Graph.call_served cfg hi ht n hn c with ⟨e, _, h⟩ | ⟨g1, _, ht1, hc, hb, h⟩
  · rw [h] at hran; cases hran
  · -- the first call is answered by the table in service, or by the one the lazy build has just made
    rw [h] at hran ⊢
    rw [← hb] at hd
    have hF := (ht1 n hc).2 hd
    have hw : ((g1.serve cfg n c).1.tb n).Warm cfg (g1.tb n).built (g1.tb n).ana ((g1.tb n).view.call cfg c).1.mm := by
      rw [Graph.serve_tb, if_pos ⟨rfl, Graph.cp_lt g1 n hc⟩]
      exact ⟨hc, (Tab.view_call hF hd c).1, MMap.Le.refl _ _⟩
    have hw2 := Tab.Warm.calls hd later _ hw
    generalize later.foldl (fun g' mc => (g'.call cfg mc.1 mc.2).1) (g1.serve cfg n c).1 = g2 at hw2
    rw [Graph.call_compiled cfg g2 n c hw2.compiled]
    exact (call_rel cfg _ _ (hd.planOK _) _ _ hF hw2.inv c).warm id hran hw2.le

/-- **every history**: after ANY sequence of create / copy / variant / add-mixins / register / unregister / call
    operations accepted by the library, once a call on a node has run a method, later calls on any nodes of the graph
    leave that call free of any resolution -/
theorem C20_graph (cfg : Cfg) (ops : List GOp) (hok : Graph.opsOK cfg {} ops = true)
    (n : Nat) (hn : n < (Graph.runOps cfg {} ops).nodes.length)
    (hd : (Graph.runOps cfg {} ops).distinctAt n) (c : Call) (id : Nat)
    (hran : ((Graph.runOps cfg {} ops).call cfg n c).2.1 = .ran id) (later : List (Nat × Call)) :
    ((later.foldl (fun g' mc => (g'.call cfg mc.1 mc.2).1) ((Graph.runOps cfg {} ops).call cfg n c).1).call cfg n c).2.2.2
      = 0 :=
  Graph.warm_after_call cfg _ (Graph.inv_runOps cfg ops {} Inv.empty hok)
    (Graph.allOK_runOps cfg ops {} (AllOK.empty cfg)) n hn hd c id hran later

/-! non-vacuity of the hypotheses on histories: a function with one method, a linked variant of it with a second
method — the history is accepted (`opsOK`).  That a call on the variant then runs a method (`hran`) is not
kernel-reducible (the table model sorts with well-founded recursion); the compiled model evaluates histories of this
shape in the graph stream of the correspondence (a linked variant put to use before its parent: one resolution, then
none after the parent's own first call). -/
namespace C20GraphExample
def Hx : Hier := { sub := fun a b => a == b || b == 0, hasAttr := fun _ _ => false, pred := fun _ _ => false }
def cfgx : Cfg := { H := Hx, tyRank := fun _ => 0, hRank := fun n => n }
def d1 : Def := { d := { id := 1, code := 101, isMethod := false, params := [{ name := 0, kind := .posOrKw, required := true, ty := .cls 1 }], prio := 0 }, body := .ret }
def d2 : Def := { d := { id := 2, code := 102, isMethod := false, params := [{ name := 0, kind := .posOrKw, required := true, ty := .cls 0 }], prio := 0 }, body := .recurse [] }
def opsx : List GOp := [.create [] false, .register 0 d1, .create [0] true, .register 1 d2]
example : Graph.opsOK cfgx {} opsx = true ∧ (Graph.runOps cfgx {} opsx).nodes.length = 2 := by decide +kernel
end C20GraphExample

end Ovld

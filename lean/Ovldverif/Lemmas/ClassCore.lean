import Ovldverif.Spec.ClassSpec
import Ovldverif.Lemmas.GraphRel
import Ovldverif.Lemmas.All2
/-!
# Class bodies: the graph operations of `translate` on an abstract graph (`AG`: nodes, mixins, own definitions)

`Lemmas/ClassGraph.lean` ties `AG` to `Graph`.
-/
set_option autoImplicit false
namespace Ovld

def upd {α : Type} (f : Nat → α) (n : Nat) (v : α) : Nat → α := fun k => if k = n then v else f k

theorem upd_same {α : Type} (f : Nat → α) (n : Nat) (v : α) : upd f n v n = v := by simp [upd]
theorem upd_ne {α : Type} (f : Nat → α) (n : Nat) (v : α) (k : Nat) (h : k ≠ n) : upd f n v k = f k := by
  simp [upd, h]
theorem upd_self {α : Type} (f : Nat → α) (n : Nat) : upd f n (f n) = f := by
  funext k; unfold upd; split
  · next h => rw [h]
  · rfl
theorem upd_upd {α : Type} (f : Nat → α) (n : Nat) (v w : α) : upd (upd f n v) n w = upd f n w := by
  funext k; unfold upd; split <;> rfl

theorem mem_upd {α : Type} {f : Nat → List α} {n k : Nat} {v : List α} {x : α} (h : x ∈ upd f n v k) :
    (k = n ∧ x ∈ v) ∨ x ∈ f k := by
  unfold upd at h
  split at h
  · next hk => exact Or.inl ⟨hk, h⟩
  · exact Or.inr h

/-- abstract graph: what `defns` depends on -/
structure AG where
  len : Nat := 0
  mx : Nat → List Nat := fun _ => []
  ow : Nat → List (Def × Int) := fun _ => []

theorem AG.ext {a b : AG} (h1 : a.len = b.len) (h2 : a.mx = b.mx) (h3 : a.ow = b.ow) : a = b := by
  cases a; cases b; simp at h1 h2 h3; simp [h1, h2, h3]

def AG.step (a : AG) : GOp → AG
  | .create ms _ => { a with len := a.len + 1, mx := upd a.mx a.len ms }
  | .addMixins n ms => { a with mx := upd a.mx n (a.mx n ++ ms) }
  | .register n d => { a with ow := upd a.ow n (setDefn ((a.ow n).length + 1) (a.ow n) d 0) }
  | _ => a

/-- class bodies never link back, unregister or call (which is why `AG` has no `children`) -/
def AG.ok (a : AG) : GOp → Prop
  | .create ms lb => lb = false ∧ ∀ m ∈ ms, m < a.len
  | .addMixins n ms => n < a.len ∧ ∀ m ∈ ms, m < a.len ∧ m ≠ n ∧ ¬ Anc a.mx n m
  | .register n _ => n < a.len
  | _ => False

namespace ClassBody

def _root_.Ovld.AG.regs (a : AG) (n : Nat) (ds : List Def) : AG := { a with ow := upd a.ow n (ClassBody.regs ds (a.ow n)) }

@[simp] theorem regs_len (a : AG) (n : Nat) (ds : List Def) : (a.regs n ds).len = a.len := rfl
@[simp] theorem regs_mx (a : AG) (n : Nat) (ds : List Def) : (a.regs n ds).mx = a.mx := rfl
@[simp] theorem regs_ow (a : AG) (n : Nat) (ds : List Def) :
    (a.regs n ds).ow = upd a.ow n (regs ds (a.ow n)) := rfl
@[simp] theorem create_len (a : AG) (ms : List Nat) (lb : Bool) : (a.step (.create ms lb)).len = a.len + 1 := rfl
@[simp] theorem create_mx (a : AG) (ms : List Nat) (lb : Bool) :
    (a.step (.create ms lb)).mx = upd a.mx a.len ms := rfl
@[simp] theorem create_ow (a : AG) (ms : List Nat) (lb : Bool) : (a.step (.create ms lb)).ow = a.ow := rfl
@[simp] theorem register_len (a : AG) (n : Nat) (d : Def) : (a.step (.register n d)).len = a.len := rfl
@[simp] theorem register_mx (a : AG) (n : Nat) (d : Def) : (a.step (.register n d)).mx = a.mx := rfl
@[simp] theorem register_ow (a : AG) (n : Nat) (d : Def) :
    (a.step (.register n d)).ow = upd a.ow n (setDefn ((a.ow n).length + 1) (a.ow n) d 0) := rfl
@[simp] theorem addMixins_len (a : AG) (n : Nat) (ms : List Nat) : (a.step (.addMixins n ms)).len = a.len := rfl
@[simp] theorem addMixins_mx (a : AG) (n : Nat) (ms : List Nat) :
    (a.step (.addMixins n ms)).mx = upd a.mx n (a.mx n ++ ms) := rfl
@[simp] theorem addMixins_ow (a : AG) (n : Nat) (ms : List Nat) : (a.step (.addMixins n ms)).ow = a.ow := rfl

end ClassBody

def AG.run (a : AG) (ops : List GOp) : AG := ops.foldl AG.step a

def AG.oks : AG → List GOp → Prop
  | _, [] => True
  | a, op :: rest => a.ok op ∧ AG.oks (a.step op) rest

theorem AG.run_append (a : AG) (l1 l2 : List GOp) : a.run (l1 ++ l2) = (a.run l1).run l2 := by
  simp [AG.run, List.foldl_append]

theorem AG.oks_append (l1 l2 : List GOp) (a : AG) : a.oks (l1 ++ l2) ↔ a.oks l1 ∧ (a.run l1).oks l2 := by
  induction l1 generalizing a with
  | nil => exact (and_iff_right trivial).symm
  | cons op l1 ih => exact (and_congr_right fun _ => ih _).trans and_assoc.symm

def AG.Childless (a : AG) (n : Nat) : Prop := ∀ k, n ∉ a.mx k

theorem AG.Childless.not_anc {a : AG} {n m : Nat} (h : a.Childless n) : ¬ Anc a.mx n m := by
  intro ha
  obtain ⟨b, hb, _⟩ := ha.top_cases
  exact h b hb

def AG.Grows (n : Nat) (a a' : AG) : Prop :=
  a.len ≤ a'.len ∧ ∀ k, k < a.len → k ≠ n → a'.mx k = a.mx k ∧ a'.ow k = a.ow k

theorem AG.Grows.refl (n : Nat) (a : AG) : a.Grows n a := ⟨Nat.le_refl _, fun _ _ _ => ⟨rfl, rfl⟩⟩

theorem AG.Grows.trans {n : Nat} {a b c : AG} (h1 : a.Grows n b) (h2 : b.Grows n c) : a.Grows n c := by
  refine ⟨Nat.le_trans h1.1 h2.1, fun k hk hn => ?_⟩
  obtain ⟨e1, e2⟩ := h1.2 k hk hn
  obtain ⟨e3, e4⟩ := h2.2 k (Nat.lt_of_lt_of_le hk h1.1) hn
  exact ⟨e3.trans e1, e4.trans e2⟩

/-- `a.len` is no function of `a`: with it as the exception, nothing is excepted -/
theorem AG.Grows.weaken {a a' : AG} (h : a.Grows a.len a') (n : Nat) : a.Grows n a' :=
  ⟨h.1, fun k hk _ => h.2 k hk (Nat.ne_of_lt hk)⟩

theorem AG.grows_create (a : AG) (ms : List Nat) (lb : Bool) (n : Nat) : a.Grows n (a.step (.create ms lb)) :=
  ⟨Nat.le_succ _, fun _ hk _ => ⟨upd_ne _ _ _ _ (Nat.ne_of_lt hk), rfl⟩⟩

theorem AG.grows_addMixins (a : AG) (n : Nat) (ms : List Nat) : a.Grows n (a.step (.addMixins n ms)) :=
  ⟨Nat.le_refl _, fun _ _ hk => ⟨upd_ne _ _ _ _ hk, rfl⟩⟩

theorem AG.grows_regs (a : AG) (n : Nat) (ds : List Def) : a.Grows n (a.regs n ds) :=
  ⟨Nat.le_refl _, fun _ _ hk => ⟨rfl, upd_ne _ _ _ _ hk⟩⟩

def AG.closed (a : AG) : Prop := (∀ k, ∀ m ∈ a.mx k, m < a.len) ∧ ∀ k, a.len ≤ k → a.ow k = []

theorem AG.closed_step {a : AG} (hc : a.closed) (op : GOp) (hok : a.ok op) : (a.step op).closed := by
  cases op with
  | create ms lb =>
    exact ⟨fun k m hm => Nat.lt_succ_of_lt ((mem_upd hm).elim (fun e => hok.2 m e.2) (hc.1 k m)),
      fun k hk => hc.2 k (Nat.le_of_succ_le hk)⟩
  | addMixins n ms =>
    refine ⟨fun k m hm => (mem_upd hm).elim (fun e => ?_) (hc.1 k m), hc.2⟩
    exact (List.mem_append.mp e.2).elim (hc.1 n m) (fun h => (hok.2 m h).1)
  | register n d =>
    exact ⟨hc.1, fun k hk => (upd_ne _ _ _ _ (Nat.ne_of_gt (Nat.lt_of_lt_of_le hok hk))).trans (hc.2 k hk)⟩
  | unregister n id => exact hok.elim
  | call n c => exact hok.elim

theorem AG.closed_run (ops : List GOp) : ∀ (a : AG), a.closed → a.oks ops → (a.run ops).closed := by
  induction ops with
  | nil => intro a h _; exact h
  | cons op rest ih => intro a h hok; exact ih _ (AG.closed_step h op hok.1) hok.2

theorem AG.closed_empty : AG.closed {} := ⟨fun _ _ hm => (nomatch hm), fun _ _ => rfl⟩

namespace ClassBody

structure Snap (st : TState) (a : AG) : Prop where
  oks : AG.oks {} st.ops
  run : AG.run {} st.ops = a
  len : a.len = st.nn

theorem Snap.closed {st : TState} {a : AG} (h : Snap st a) : a.closed := by
  rw [← h.run]; exact AG.closed_run _ _ AG.closed_empty h.oks

theorem Snap.empty : Snap {} {} := ⟨trivial, rfl, rfl⟩

theorem Snap.step {st st' : TState} {a : AG} (h : Snap st a) (op : GOp) (hok : a.ok op)
    (hops : st'.ops = st.ops ++ [op]) (hnn : (a.step op).len = st'.nn) : Snap st' (a.step op) :=
  ⟨by rw [hops, AG.oks_append, h.run]; exact ⟨h.oks, hok, trivial⟩, by rw [hops, AG.run_append, h.run]; rfl, hnn⟩

theorem Snap.register {st : TState} {a : AG} (h : Snap st a) (n : Nat) (d : Def) (hn : n < a.len) :
    Snap (st.emit (.register n d)) (a.step (.register n d)) := h.step _ hn rfl h.len

theorem Snap.addMixins {st : TState} {a : AG} (h : Snap st a) (n : Nat) (ms : List Nat)
    (hok : a.ok (.addMixins n ms)) : Snap (st.emit (.addMixins n ms)) (a.step (.addMixins n ms)) :=
  h.step _ hok rfl h.len

theorem Snap.create {st : TState} {a : AG} (h : Snap st a) (ms : List Nat) (hms : ∀ m ∈ ms, m < a.len) :
    Snap (st.create ms).1 (a.step (.create ms false)) :=
  h.step _ ⟨rfl, hms⟩ rfl (congrArg (· + 1) h.len)

@[simp] theorem create_snd (st : TState) (ms : List Nat) : (st.create ms).2 = st.nn := rfl
@[simp] theorem create_attr (st : TState) (ms : List Nat) : (st.create ms).1.attr = st.attr := rfl
@[simp] theorem create_hasF (st : TState) (ms : List Nat) : (st.create ms).1.hasF = st.hasF := rfl
@[simp] theorem create_nn (st : TState) (ms : List Nat) : (st.create ms).1.nn = st.nn + 1 := rfl
@[simp] theorem emit_attr (st : TState) (op : GOp) : (st.emit op).attr = st.attr := rfl
@[simp] theorem emit_hasF (st : TState) (op : GOp) : (st.emit op).hasF = st.hasF := rfl
@[simp] theorem emit_nn (st : TState) (op : GOp) : (st.emit op).nn = st.nn := rfl

theorem Snap.regAll (n : Nat) (ds : List Def) : ∀ {st : TState} {a : AG}, Snap st a → n < a.len →
    Snap (regAll st n ds) (a.regs n ds) := by
  induction ds with
  | nil =>
    intro st a h _
    have : a.regs n [] = a := by
      unfold AG.regs regs
      simp only [List.foldl_nil, upd_self]
    rw [this]; exact h
  | cons d ds ih =>
    intro st a h hn
    have h1 := ih (h.register n d hn) hn
    have : (a.step (.register n d)).regs n ds = a.regs n (d :: ds) := by
      unfold AG.regs AG.step regs
      simp only [upd_same, upd_upd, List.foldl_cons]
    rw [← this]; exact h1

theorem regs_single (d : Def) : regs [d] [] = setDefn 1 [] d 0 := rfl

theorem regs_cons_nil (d : Def) (rest : List Def) : regs rest (regs [d] []) = regs (d :: rest) [] := rfl

theorem regs_append (ds1 ds2 : List Def) (o : List (Def × Int)) : regs (ds1 ++ ds2) o = regs ds2 (regs ds1 o) := by
  simp [regs, List.foldl_append]

theorem asNode_classes (st : TState) (x : Attr) :
    (st.asNode x).1.attr = st.attr ∧ (st.asNode x).1.hasF = st.hasF := by
  cases x <;> exact ⟨rfl, rfl⟩

theorem regAll_classes (n : Nat) (ds : List Def) : ∀ (st : TState),
    (regAll st n ds).attr = st.attr ∧ (regAll st n ds).hasF = st.hasF := by
  induction ds with
  | nil => intro st; exact ⟨rfl, rfl⟩
  | cons d ds ih => intro st; exact ih (st.emit (.register n d))

/-- a function holding exactly the definition `d` (a plain function turned into an overloaded one) -/
def LeafAt (a : AG) (m : Nat) (d : Def) : Prop := a.mx m = [] ∧ a.ow m = regs [d] []

/-- `m` is what `to_ovld` makes of the attribute `x` -/
def MixRel (a : AG) (x : Attr) (m : Nat) : Prop :=
  m < a.len ∧ match x with
    | .node m' _ => m = m'
    | .plain d => LeafAt a m d
    | .none => False

theorem MixRel.grows {a a' : AG} {n : Nat} (hg : a.Grows n a') {x : Attr} {m : Nat} (hm : m ≠ n)
    (h : MixRel a x m) : MixRel a' x m := by
  refine ⟨Nat.lt_of_lt_of_le h.1 hg.1, ?_⟩
  cases x with
  | none => exact h.2
  | node m' fl => exact h.2
  | plain d =>
    obtain ⟨e1, e2⟩ := hg.2 m h.1 hm
    exact ⟨e1.trans h.2.1, e2.trans h.2.2⟩

/-- arguments of `asNode`: functions older than `lo`, or plain functions -/
def Old (lo : Nat) : Attr → Prop
  | .node m _ => m < lo
  | .plain _ => True
  | .none => False

/-- `to_ovld`: the result is older than `lo` or brand new -/
theorem asNode_spec {st : TState} {a : AG} (h : Snap st a) {lo : Nat} (hlo : lo ≤ a.len) {x : Attr} (hx : Old lo x) :
    ∃ a', Snap (st.asNode x).1 a' ∧ a.Grows a.len a' ∧ (∀ k m, m ∈ a'.mx k → m ∈ a.mx k) ∧
      MixRel a' x (st.asNode x).2 ∧ ((st.asNode x).2 < lo ∨ a.len ≤ (st.asNode x).2) := by
  cases x with
  | none => exact hx.elim
  | node m fl =>
    exact ⟨a, h, .refl _ _, fun _ _ hm => hm, ⟨Nat.lt_of_lt_of_le hx hlo, rfl⟩, Or.inl hx⟩
  | plain d =>
    obtain ⟨ops, nn, attr, hasF⟩ := st
    obtain rfl : a.len = nn := h.len
    refine ⟨_, (h.create [] (fun m hm => nomatch hm)).register a.len d (Nat.lt_succ_self _),
      ⟨Nat.le_succ _, fun k hk _ => ⟨upd_ne _ _ _ _ (Nat.ne_of_lt hk), upd_ne _ _ _ _ (Nat.ne_of_lt hk)⟩⟩,
      fun k m hm => (mem_upd hm).elim (fun e => nomatch e.2) id, ⟨Nat.lt_succ_self _, upd_same _ _ _, ?_⟩,
      Or.inr (Nat.le_refl _)⟩
    show upd a.ow a.len (setDefn ((a.ow a.len).length + 1) (a.ow a.len) d 0) a.len = _
    rw [upd_same, h.closed.2 a.len (Nat.le_refl _)]; rfl

/-- what a class holds (model) against the documented effective method set (specification) -/
def RelAE (nn : Nat) (D : Nat → List (Def × Int)) : Attr → Eff → Prop
  | .none, e => e.kind = .none
  | .plain d, e => e.kind = .plain ∧ e.fn = some d ∧ e.defns = nodeDefns [] [d]
  | .node n fl, e => e.kind = .ovld ∧ e.flagged = fl ∧ n < nn ∧ D n = e.defns

theorem RelAE.mono {nn nn' : Nat} {D D' : Nat → List (Def × Int)} (hle : nn ≤ nn')
    (hD : ∀ m, m < nn → D' m = D m) {x : Attr} {e : Eff} (h : RelAE nn D x e) : RelAE nn' D' x e := by
  cases x with
  | none => exact h
  | plain d => exact h
  | node n fl => exact ⟨h.1, h.2.1, Nat.lt_of_lt_of_le h.2.2.1 hle, (hD n h.2.2.1).trans h.2.2.2⟩

def plainOf : Attr → Option Def
  | .plain d => some d
  | _ => none

def RelOv (nn : Nat) (D : Nat → List (Def × Int)) (p : Nat × Bool) (e : Eff) : Prop :=
  p.2 = e.flagged ∧ p.1 < nn ∧ D p.1 = e.defns

section
variable {nn : Nat} {D : Nat → List (Def × Int)} {x : Attr} {e : Eff}

theorem RelAE.old (h : RelAE nn D x e) (hx : x.isSome = true) : Old nn x := by
  cases x with
  | none => cases hx
  | plain d => trivial
  | node n fl => exact h.2.2.1

theorem RelAE.kind (h : RelAE nn D x e) :
    e.kind = match x with | .none => .none | .plain _ => .plain | .node _ _ => .ovld := by
  cases x with
  | none => exact h
  | plain d => exact h.1
  | node n fl => exact h.1

theorem RelAE.isSome (h : RelAE nn D x e) : x.isSome = (e.kind != .none) := by
  cases x <;> rw [h.kind] <;> rfl

theorem RelAE.plainOf (h : RelAE nn D x e) :
    plainOf x = if e.kind == .plain then e.fn else none := by
  cases x with
  | plain d => rw [h.kind, h.2.1]; rfl
  | _ => rw [h.kind]; rfl

theorem RelAE.nodeOf (h : RelAE nn D x e) :
    (∀ p, nodeOf x = some p → (e.kind == .ovld) = true ∧ RelOv nn D p e) ∧
      (nodeOf x = none → (e.kind == .ovld) = false) := by
  cases x with
  | node n fl =>
    refine ⟨fun p hp => ?_, fun hn => nomatch hn⟩
    cases hp
    exact ⟨by rw [h.kind]; rfl, h.2.1.symm, h.2.2.1, h.2.2.2⟩
  | _ => exact ⟨nofun, fun _ => by rw [h.kind]; rfl⟩

end

/-- one base in the `__prepare__` loop -/
def plainStep (acc : TState × List Nat) (v : Attr) : TState × List Nat :=
  match v with
  | .plain d => ((acc.1.create []).1.emit (.register acc.1.nn d), acc.2 ++ [acc.1.nn])
  | _ => acc

def plainMk (st : TState) (values : List Attr) : TState × List Nat := values.foldl plainStep (st, [])

theorem plainLoop_spec : ∀ (vs : List Attr) {st : TState} {a : AG} (acc : List Nat), Snap st a →
    ∃ a' ns, Snap (vs.foldl plainStep (st, acc)).1 a' ∧ (vs.foldl plainStep (st, acc)).2 = acc ++ ns ∧
      a.Grows a.len a' ∧ All2 (fun m d => MixRel a' (.plain d) m) ns (vs.filterMap plainOf) ∧
      (vs.foldl plainStep (st, acc)).1.attr = st.attr ∧ (vs.foldl plainStep (st, acc)).1.hasF = st.hasF := by
  intro vs
  induction vs with
  | nil =>
    intro st a acc h
    exact ⟨a, [], h, (List.append_nil _).symm, .refl _ _, All2.nil, rfl, rfl⟩
  | cons v vs ih =>
    intro st a acc h
    cases v with
    | none => exact ih acc h
    | node m fl => exact ih acc h
    | plain d =>
      obtain ⟨a1, s1, g1, _, hrel, _⟩ := asNode_spec h (Nat.le_refl _) (x := .plain d) trivial
      obtain ⟨a', ns, s2, hns, g2, hr, hat, hhf⟩ := ih (acc ++ [st.nn]) s1
      exact ⟨a', st.nn :: ns, s2, hns.trans (List.append_assoc _ _ _), g1.trans (g2.weaken _),
        All2.cons (hrel.grows g2 (Nat.ne_of_lt hrel.1)) hr, hat, hhf⟩

end ClassBody

end Ovld

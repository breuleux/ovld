import Ovldverif.Spec.Runs
import Ovldverif.Spec.Chain
import Ovldverif.Lemmas.StaticRank
/-!
# The rank after the current method under `strictAbove` (C07)

Split the sorted candidates at the current method: the prefix beats it, the suffix does not; the prefix and the
current method dominate everything after them, so they come out as singleton ranks (`ranks_split`); what `call_next`
finds is the first group of the suffix, which `Below.agrees` compares with the documented rule on the table without
the prefix and the current method.
-/
set_option autoImplicit false
namespace Ovld

/-- hypothesis of `C07_next_partial`, beside `strictAbove` of `Spec/Chain.lean`: every applicable method that beats
    the current one has a code object -/
def codesAbove (H : Hier) (ms : List Meth) (k : Key) (cur : Meth) : Bool :=
  (applicable H ms k).all (fun m => !(beats H k m cur) || m.hasCode)

theorem ranks_split {B : Cand → Cand → Prop} {cs : List Cand} (R : BeatsOK B cs) (nd : (cs.map (·.id)).Nodup)
    {pre rest : List Cand} (hS : sortCands cs = pre ++ rest)
    (hstrict : ∀ a ∈ pre, ∀ c ∈ cs, c ≠ a → B a c ∨ B c a) :
    ranks cs = pre.map (fun c => [c]) ++ pull rest.length rest [] := by
  have hdom := R.sorted_dominates (sortCands cs) pre (sortCands_sorted cs) (fun c => (sortCands_perm cs).mem_iff.mp)
    (nodup_of_map_nodup (·.id) _ (sortCands_ids_nodup cs nd)) hstrict
  rw [hS] at hdom
  rw [show ranks cs = pull (sortCands cs).length (sortCands cs) [] from rfl, hS, List.length_append,
    pull_prefix rest _ _ hdom]

theorem codeOf_of_mem (ms : List Meth) (hid : (ms.map (·.id)).Nodup) (m : Meth) (hm : m ∈ ms)
    (hc : m.hasCode = true) : codeOf ms m.id = some m.code := by
  rw [codeOf, findMeth_of_mem ms hid m hm]
  exact if_pos hc

theorem nextSpec_eq (H : Hier) (ms : List Meth) (hcodes : (ms.map (·.code)).Nodup) (k : Key) (cur : Meth)
    (hcur : cur ∈ applicable H ms k) (hcode : cur.hasCode = true) :
    nextSpec H ms cur.code k =
      specResolve H (ms.filter (fun m => !(m.id == cur.id || (applicableTo H k m && beats H k m cur)))) k := by
  unfold nextSpec
  cases hf : (applicable H ms k).find? (fun m => m.hasCode && m.code == cur.code) with
  | none => simpa [hcode] using List.find?_eq_none.mp hf cur hcur
  | some m =>
    have hp := List.find?_some hf
    rw [Bool.and_eq_true, beq_iff_eq] at hp
    rw [eq_of_nodup_map (·.code) hcodes (mem_of_applicable (List.mem_of_find?_eq_some hf)) (mem_of_applicable hcur) hp.2]

theorem strictAbove_spec {H : Hier} {ms : List Meth} {k : Key} {cur : Meth} (h : strictAbove H ms k cur = true)
    {m m' : Meth} (hm : m ∈ applicable H ms k) (hA : m.id = cur.id ∨ beats H k m cur = true)
    (hm' : m' ∈ applicable H ms k) : m'.id = m.id ∨ beats H k m m' = true ∨ beats H k m' m = true := by
  have h1 := List.all_eq_true.mp h m hm
  have cond : (m.id == cur.id || beats H k m cur) = true := by
    rw [Bool.or_eq_true, beq_iff_eq]; exact hA
  rw [cond] at h1
  simpa [or_assoc] using List.all_eq_true.mp h1 m' hm'

theorem staticRank_single (ms : List Meth) (c : Cand) (code : Nat) (h : codeOf ms c.id = some code) :
    (staticRank ms [c]).live = true ∧ code ∈ (staticRank ms [c]).codes := by
  simp [staticRank, Rank.live, h]

theorem next_partial_core (cfg : Cfg) (ms : List Meth) (wf : cfg.H.WF) (anti : cfg.H.Antisym)
    (hd : DistinctHandlers ms) (hst : staticTable ms = true)
    (k : Key) (hkc : ∀ e ∈ k, e.2.isCls = true)
    (hcc : candComparable cfg.H ms k = true) (htie : sigTieOK cfg.H ms k = true)
    (cur : Meth) (hcur : cur ∈ applicable cfg.H ms k) (hcode : cur.hasCode = true)
    (hsa : strictAbove cfg.H ms k cur = true) (hca : codesAbove cfg.H ms k cur = true) :
    specAgrees (pureNext (plan cfg ms) cur.code k) (nextSpec cfg.H ms cur.code k) := by
  obtain ⟨cs, X, hplan⟩ := static_plan cfg ms wf anti hd.ids hst k hkc hcc htie
  have R := X.ranked
  obtain ⟨ccur, hccur, hmcur⟩ := X.cand_of_applicable hcur
  have hmemS : ∀ c, c ∈ sortCands cs ↔ c ∈ cs := fun c => (sortCands_perm cs).mem_iff
  obtain ⟨pre, rest, hS⟩ := List.append_of_mem ((hmemS ccur).mpr hccur)
  have hsorted := hS ▸ sortCands_sorted cs
  have ndS : (pre ++ ccur :: rest).Nodup := hS ▸ nodup_of_map_nodup (·.id) _ (sortCands_ids_nodup cs X.ok.nodup)
  have hsub : ∀ c ∈ pre ++ ccur :: rest, c ∈ cs := fun c hc => (hmemS c).mp (hS ▸ hc)
  have hpre_sub : ∀ c ∈ pre, c ∈ cs := fun c hc => hsub c (List.mem_append_left _ hc)
  have hrest_sub : ∀ c ∈ rest, c ∈ cs := fun c hc => hsub c (List.mem_append_right _ (List.mem_cons_of_mem _ hc))
  -- `strictAbove`, on candidates
  have hstrict : ∀ a ∈ cs, (a = ccur ∨ beats cfg.H k (methOf ms a.id) cur = true) → ∀ c ∈ cs, c ≠ a →
      beats cfg.H k (methOf ms a.id) (methOf ms c.id) = true ∨
        beats cfg.H k (methOf ms c.id) (methOf ms a.id) = true := fun a ha hA c hc hne =>
    (strictAbove_spec hsa (X.applicable_of_cand ha) (hA.imp_left fun e => by rw [e, hmcur])
      (X.applicable_of_cand hc)).resolve_left fun e => hne (X.methOf_inj hc ha e)
  obtain ⟨hpre, hrest⟩ := R.split_sorted hsorted hsub ndS fun a ha hne =>
    (hstrict ccur hccur (Or.inl rfl) a ha hne)
  rw [hmcur] at hpre hrest
  have hranks : (plan cfg ms k).ranks = pre.map (fun c => staticRank ms [c]) ++
      staticRank ms [ccur] :: (pull rest.length rest []).map (staticRank ms) := by
    rw [hplan, ranks_split R X.ok.nodup (pre := pre ++ [ccur]) (by rw [hS, List.append_cons]) fun a ha => ?_]
    · simp
    · rcases List.mem_append.mp ha with h | h
      · exact hstrict a (hpre_sub a h) (Or.inr (hpre a h))
      · exact hstrict a (List.eq_of_mem_singleton h ▸ hccur) (Or.inl (List.eq_of_mem_singleton h))
  -- `codesAbove`: the publication loop gets as far as the current method
  have hcodeM : ∀ c ∈ cs, (methOf ms c.id).hasCode = true → codeOf ms c.id = some (methOf ms c.id).code := by
    intro c hc h
    have := codeOf_of_mem ms hd.ids _ (X.cand hc).mem h
    rwa [(X.cand hc).id] at this
  have hlive : ∀ r' ∈ pre.map (fun c => staticRank ms [c]), r'.live = true := by
    intro r' hr'
    obtain ⟨a, ha, rfl⟩ := List.mem_map.mp hr'
    have h1 := List.all_eq_true.mp hca _ (X.applicable_of_cand (hpre_sub a ha))
    rw [hpre a ha] at h1
    exact (staticRank_single ms a _ (hcodeM a (hpre_sub a ha) h1)).1
  have hci : cur.code ∈ (staticRank ms [ccur]).codes :=
    (staticRank_single ms ccur _ (by rw [hcodeM ccur hccur (hmcur ▸ hcode), hmcur])).2
  rw [step_split (plan cfg ms) (plan_ok cfg ms hd.ids hd.codes) k cur.code _ _ _ hranks (by rw [hplan]) hlive rfl hci,
    List.head?_map, pull_head _ rest (Nat.le_refl _) (List.pairwise_cons.mp (List.pairwise_append.mp hsorted).2.1).2,
    nextSpec_eq cfg.H ms hd.codes k cur hcur hcode]
  have ndrest := List.nodup_cons.mp (List.nodup_append.mp ndS).2.1
  refine (Below.of_filter X hrest_sub ndrest.2 _ fun c hc => ?_).agrees
  rw [Bool.not_eq_true', Bool.or_eq_false_iff, beq_eq_false_iff_ne, (X.cand hc).app, Bool.true_and]
  constructor
  · rintro ⟨hni, hnb⟩
    rcases List.mem_append.mp (hS ▸ (hmemS c).mpr hc) with h | h
    · exact absurd (hpre c h) (Bool.eq_false_iff.mp hnb)
    · exact (List.mem_cons.mp h).resolve_left fun e => hni (by rw [e, hmcur])
  · exact fun hr => ⟨fun e => ndrest.1 (X.methOf_inj hc hccur (by rw [e, hmcur]) ▸ hr),
      Bool.eq_false_iff.mpr (hrest c hr)⟩

end Ovld

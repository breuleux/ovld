import Ovldverif.Model.ConcLookup
import Ovldverif.Lemmas.CacheInv
/-!
# One step of one thread of `Model/ConcLookup.lean` preserves the global and the thread-local invariant

The global invariant is `CInv` itself: it promises closure only for keys whose own entry `(none, k)` is present,
and that entry is the LAST write of a resolution (`ws_top_last`), so `CInv` holds after EVERY single dict access of
every thread.  `L` is what a thread knows at its program counter; it survives the steps of the other threads
because those only add entries (`Ext`).  A sequential lookup, completed (`lookup`) or interrupted (`lookupCut`), is
a run of one thread (`reach_lookup`, `reach_cut`).
-/
set_option autoImplicit false
namespace Ovld.ConcLookup
open Ovld

section
variable {K F E : Type} [DecidableEq K] (plan : K → Plan F E)

/-- thread-local invariant, relative to the thread's request -/
def L (st : St K F E) (req : CKey K) : PC K F E → Prop
  | .top0 k ret => req = (ret, k)
  | .top1 k ret => req = (ret, k)
  | .top2 k ret rest => req = (ret, k) ∧ (plan k).fail = false ∧ st.all k ≠ none ∧
      ∃ pre, ws plan k = pre ++ rest ∧ ∀ w ∈ pre, Present st w
  | .top3 k ret => req = (ret, k) ∧ (plan k).fail = false ∧ (plan k).ranks.isEmpty = false ∧
      ∀ w ∈ ws plan k, Present st w
  | .top4 k ret => req = (ret, k) ∧ (plan k).fail = false ∧ (plan k).ranks.isEmpty = false ∧
      (∀ w ∈ ws plan k, Present st w) ∧ lastE (none, k) (ws plan k) = none
  | .next0 c k => req = (some c, k)
  | .next1 c k f => req = (some c, k) ∧ pureTop plan k = .ok f ∧ st.cache (none, k) ≠ none
  | .next2 c k => req = (some c, k) ∧ (∃ f, pureTop plan k = .ok f) ∧ (plan k).allCodes.contains c = true ∧
      st.cache (none, k) ≠ none
  | .next3 c k => req = (some c, k) ∧ (∃ f, pureTop plan k = .ok f) ∧ (plan k).allCodes.contains c = true ∧
      st.cache (none, k) ≠ none ∧ lastE (some c, k) (ws plan k) = none
  | .done r => r = pureLookup plan req

theorem L.stable {st st' : St K F E} {req : CKey K} (x : Ext st st') :
    ∀ pc, L plan st req pc → L plan st' req pc := by
  intro pc h
  cases pc with
  | top2 _ _ _ =>
    obtain ⟨h1, h2, h3, pre, h4, h5⟩ := h
    exact ⟨h1, h2, x.a _ h3, pre, h4, fun w hw => Present.stable x w (h5 w hw)⟩
  | top3 _ _ => exact ⟨h.1, h.2.1, h.2.2.1, fun w hw => Present.stable x w (h.2.2.2 w hw)⟩
  | top4 _ _ => exact ⟨h.1, h.2.1, h.2.2.1, fun w hw => Present.stable x w (h.2.2.2.1 w hw), h.2.2.2.2⟩
  | next1 _ _ _ => exact ⟨h.1, h.2.1, x.cache_ne_none h.2.2⟩
  | next2 _ _ => exact ⟨h.1, h.2.1, h.2.2.1, x.cache_ne_none h.2.2.2⟩
  | next3 _ _ => exact ⟨h.1, h.2.1, h.2.2.1, x.cache_ne_none h.2.2.2.1, h.2.2.2.2⟩
  | _ => exact h

theorem L_start (st : St K F E) (ck : CKey K) : L plan st ck (startPC ck) := by
  obtain ⟨c, k⟩ := ck
  cases c <;> simp [startPC, L]

theorem L_retTop {st : St K F E} {k : K} {ret : Option Code} {r : Res F E}
    (hr : r = pureTop plan k) (hres : ∀ f, r = .ok f → st.cache (none, k) ≠ none) :
    L plan st (ret, k) (retTop ret k r) := by
  cases ret with
  | none => simp only [retTop, L, pureLookup]; exact hr
  | some c =>
    cases r with
    | ok f => exact ⟨rfl, hr.symm, hres f rfl⟩
    | _ => simp only [retTop, L, pureLookup, pureNext, ← hr]

theorem recordAll_ok {st : St K F E} (g : CInv plan st) (k : K) (hf : (plan k).fail = false) :
    Ext st (recordAll plan st k) ∧ CInv plan (recordAll plan st k) ∧ (recordAll plan st k).all k ≠ none := by
  have hx : Ext st (recordAll plan st k) :=
    ⟨fun _ _ h => h, fun _ _ h => h, fun k' h => by
      show (if k' = k then some (plan k).allCodes else st.all k') ≠ none
      split <;> simp [h]⟩
  refine ⟨hx, g.extend plan hx (fun w h => Or.inl (by cases w <;> exact h)) ?_ (fun _ _ hp => Or.inl hp), ?_⟩
  · intro k' cs h
    have h' : (if k' = k then some (plan k).allCodes else st.all k') = some cs := h
    split at h'
    · next e => cases h'; exact Or.inr ⟨by rw [e], e ▸ hf⟩
    · exact Or.inl h'
  · show (if k = k then some (plan k).allCodes else st.all k) ≠ none
    simp

theorem applyW1_c_errors (st : St K F E) (ck : CKey K) (f : F) :
    (applyW1 st (.c ck f)).errors = st.errors := rfl

theorem applyW1_all (st : St K F E) (w : W K F E) : (applyW1 st w).all = st.all := by
  cases w <;> rfl

/-- one dict write of a resolution of `k`, at any time, whatever the other threads have written: the state only
    grows and `CInv` is preserved (the value is the one the plan publishes; the entry of `k` itself comes last) -/
theorem write_ok (ok : PlanOK plan) {st : St K F E} (g : CInv plan st) {k : K} (hf : (plan k).fail = false)
    (hall : st.all k ≠ none) {pre rest : List (W K F E)} {w : W K F E} (hws : ws plan k = pre ++ w :: rest)
    (hpre : ∀ w' ∈ pre, Present st w') :
    Ext st (applyW1 st w) ∧ CInv plan (applyW1 st w) ∧ ∀ w' ∈ pre ++ [w], Present (applyW1 st w) w' := by
  have nd := ws_keys_nodup plan ok k
  have hwin : w ∈ ws plan k := by rw [hws]; simp
  have hnew : Present (applyW1 st w) w :=
    present_applyW_of_last (Last.of_unique (List.mem_singleton.2 rfl) fun _ h _ => List.mem_singleton.1 h)
  -- an entry already at the key of `w` is, being sound, a write of `k`, hence `w` itself: nothing is overwritten
  have hx : Ext st (applyW1 st w) := by
    refine Ext.of_present (fun w' hw' => ?_) (fun k' h => by rw [applyW1_all]; exact h)
    by_cases e : w'.key = w.key
    · have h1 := (g.sound plan hw').1
      rw [e, ws_key plan hwin] at h1
      cases eq_of_nodup_map W.key nd h1.mem hwin e
      exact hnew
    · exact present_applyW_of_key (fun w'' hw'' => by cases List.mem_singleton.1 hw''; exact Ne.symm e) hw'
  have hpre' : ∀ w' ∈ pre ++ [w], Present (applyW1 st w) w' := by
    intro w' hw'
    rcases List.mem_append.1 hw' with h | h
    · exact Present.stable hx w' (hpre w' h)
    · cases List.mem_singleton.1 h; exact hnew
  refine ⟨hx, g.extend plan hx ?_ (fun k' cs h => Or.inl (by rw [applyW1_all] at h; exact h)) ?_, hpre'⟩
  · intro w' hw'
    refine (present_applyW hw').symm.imp id fun hl => ?_
    cases List.mem_singleton.1 hl.mem
    exact Sound.of_last plan (Last.of_mem nd hwin) hf
  · -- a new own entry is `w`, the last write of `ws plan k`: all the others are there already
    intro k' f hp
    refine (present_applyW hp).symm.imp id fun hl => ?_
    cases List.mem_singleton.1 hl.mem
    obtain rfl : k' = k := ws_key plan hwin
    cases ws_top_last plan hws rfl
    exact ⟨by rw [applyW1_all]; exact hall, fun w' hw' => hpre' w' (hws ▸ hw'.mem)⟩

/-- one step of one thread: the state only grows, the global invariant and the invariant of the stepping thread
    are preserved -/
theorem step_ok (ok : PlanOK plan) (st : St K F E) (req : CKey K) (pc : PC K F E) (g : CInv plan st)
    (l : L plan st req pc) :
    Ext st (step plan st pc).1 ∧ CInv plan (step plan st pc).1 ∧
      L plan (step plan st pc).1 req (step plan st pc).2 := by
  have keep : ∀ {pc'}, L plan st req pc' → Ext st st ∧ CInv plan st ∧ L plan st req pc' :=
    fun l => ⟨Ext.refl _, g, l⟩
  cases pc with
  | done r => exact keep l
  | top0 k ret =>
    cases (l : req = _)
    dsimp only [step]
    cases h : st.cache (none, k) with
    | none => exact keep rfl
    | some f => exact keep (L_retTop plan (pureTop_of_hit plan g h).symm (fun _ _ => h ▸ Option.some_ne_none f))
  | top1 k ret =>
    cases (l : req = _)
    dsimp only [step]
    cases hf : (plan k).fail with
    | true => exact keep (L_retTop plan (by simp [pureTop, hf]) (fun f h => by cases h))
    | false =>
      obtain ⟨hx, hg, ha⟩ := recordAll_ok plan g k hf
      exact ⟨hx, hg, rfl, hf, ha, [], rfl, fun _ h => by cases h⟩
  | top2 k ret rest =>
    obtain ⟨rfl, hf, hall, pre, hws, hpre⟩ := l
    cases rest with
    | nil =>
      dsimp only [step]
      rw [List.append_nil] at hws
      cases hr : (plan k).ranks.isEmpty with
      | true => exact keep (L_retTop plan (by simp [pureTop, hf, hr]) (fun f h => by cases h))
      | false => exact keep ⟨rfl, hf, hr, hws ▸ hpre⟩
    | cons w rest =>
      obtain ⟨hx, hg, hpre'⟩ := write_ok plan ok g hf hall hws hpre
      exact ⟨hx, hg, rfl, hf, hx.a k hall, pre ++ [w], by rw [hws]; simp, hpre'⟩
  | top3 k ret =>
    obtain ⟨rfl, hf, hne, hp⟩ := l
    dsimp only [step]
    cases h : st.errors (none, k) with
    | some e =>
      have hpe : lastE (none, k) (ws plan k) = some e := (g.errors_sub _ e h).1
      exact keep (L_retTop plan (by simp [pureTop, hf, hne, hpe]) (fun f h => by cases h))
    | none =>
      exact keep ⟨rfl, hf, hne, hp, lastE_none_of_not_mem fun e he => by simpa [Present, h] using hp _ he⟩
  | top4 k ret =>
    obtain ⟨rfl, hf, hne, hp, hpe⟩ := l
    dsimp only [step]
    cases h : st.cache (none, k) with
    | some f => exact keep (L_retTop plan (pureTop_of_hit plan g h).symm (fun _ _ => h ▸ Option.some_ne_none f))
    | none =>
      have hpc : lastC (none, k) (ws plan k) = none :=
        lastC_none_of_not_mem fun f hf' => by simpa [Present, h] using hp _ hf'
      exact keep (L_retTop plan (by simp [pureTop, hf, hne, hpe, hpc]) (fun f h => by cases h))
  | next0 c k =>
    cases (l : req = _)
    dsimp only [step]
    cases h : st.cache (some c, k) with
    | none => exact keep rfl
    | some f => exact keep (pureNext_of_hit plan ok g h).symm
  | next1 c k f =>
    obtain ⟨rfl, htop, hr⟩ := l
    dsimp only [step]
    cases hc : st.cache (none, k) with
    | none => exact absurd hc hr
    | some f0 =>
      cases h : st.all k with
      | none => exact absurd h (g.top_all k f0 hc)
      | some cs =>
        cases (g.all_eq k cs h).1
        dsimp only
        cases hm : (plan k).allCodes.contains c with
        | true => exact keep ⟨rfl, ⟨f, htop⟩, hm, hr⟩
        | false => exact keep (show _ = pureNext plan c k by rw [pureNext_of_top plan htop, hm]; rfl)
  | next2 c k =>
    obtain ⟨rfl, ⟨f, htop⟩, hm, hr⟩ := l
    dsimp only [step]
    have hce := g.closed_e k hr (some c)
    cases h : st.errors (some c, k) with
    | some e => exact keep (show _ = pureNext plan c k by rw [pureNext_of_top plan htop, hm, ← hce, h]; rfl)
    | none => exact keep ⟨rfl, ⟨f, htop⟩, hm, hr, by rw [← hce, h]⟩
  | next3 c k =>
    obtain ⟨rfl, ⟨f, htop⟩, hm, hr, hpe⟩ := l
    dsimp only [step]
    have hcc := g.closed_c k hr (some c)
    cases h : st.cache (some c, k) <;>
      exact keep (show _ = pureNext plan c k by rw [pureNext_of_top plan htop, hm, hpe, ← hcc, h]; rfl)

def Reach (x y : St K F E × PC K F E) : Prop := ∃ n, iter plan n x = y

theorem iter_add (m n : Nat) (x : St K F E × PC K F E) : iter plan (m + n) x = iter plan n (iter plan m x) := by
  induction m generalizing x with
  | zero => rw [Nat.zero_add]; rfl
  | succ m ih => rw [Nat.succ_add]; exact ih _

theorem iter_done (n : Nat) (st : St K F E) (r : Res F E) : iter plan n (st, .done r) = (st, .done r) := by
  induction n with
  | zero => rfl
  | succ n ih => exact ih

theorem Reach.refl (x : St K F E × PC K F E) : Reach plan x x := ⟨0, rfl⟩

theorem Reach.trans {x y z : St K F E × PC K F E} (h1 : Reach plan x y) (h2 : Reach plan y z) : Reach plan x z := by
  obtain ⟨m, hm⟩ := h1
  obtain ⟨n, hn⟩ := h2
  exact ⟨m + n, by rw [iter_add, hm, hn]⟩

theorem Reach.head {st : St K F E} {pc : PC K F E} {z : St K F E × PC K F E}
    (h : Reach plan (step plan st pc) z) : Reach plan (st, pc) z := Reach.trans plan ⟨1, rfl⟩ h

/-- the writes of a resolution, one step each (`applyW1`, applied at `.top2`, is `applyW` on one write) -/
theorem reach_writes (k : K) (ret : Option Code) (rest pre : List (W K F E)) (st : St K F E) :
    Reach plan (st, .top2 k ret (pre ++ rest)) (applyW st pre, .top2 k ret rest) := by
  induction st, pre using applyW.induct with
  | case1 st => exact Reach.refl plan _
  | case2 st ck f pre ih | case3 st ck e pre ih => exact Reach.head plan ih

theorem reach_top (st : St K F E) (k : K) (ret : Option Code) :
    Reach plan (st, .top0 k ret) ((lookupTop plan st k).1, retTop ret k (lookupTop plan st k).2) := by
  apply Reach.head
  unfold lookupTop
  dsimp only [step]
  cases hc : st.cache (none, k) with
  | some f => exact Reach.refl plan _
  | none =>
    apply Reach.head
    dsimp only [step]
    cases hf : (plan k).fail with
    | true => exact Reach.refl plan _
    | false =>
      simp only [Bool.false_eq_true, if_false]
      refine (List.append_nil (ws plan k) ▸ reach_writes plan k ret [] (ws plan k) _).trans plan ?_
      show Reach plan (resolve plan k st, _) _
      apply Reach.head
      dsimp only [step]
      cases hr : (plan k).ranks.isEmpty with
      | true => exact Reach.refl plan _
      | false =>
        apply Reach.head
        dsimp only [step]
        cases he : (resolve plan k st).errors (none, k) with
        | some e => exact Reach.refl plan _
        | none =>
          apply Reach.head
          dsimp only [step]
          cases (resolve plan k st).cache (none, k) <;> exact Reach.refl plan _

theorem reach_next (st : St K F E) (c : Code) (k : K) :
    Reach plan (st, .next0 c k) ((lookupNext plan st c k).1, .done (lookupNext plan st c k).2) := by
  apply Reach.head
  unfold lookupNext
  dsimp only [step]
  cases hc : st.cache (some c, k) with
  | some f => exact Reach.refl plan _
  | none =>
    simp only []
    refine (reach_top plan st k (some c)).trans plan ?_
    generalize lookupTop plan st k = p
    obtain ⟨st', r⟩ := p
    cases r with
    | ok f =>
      simp only [retTop]
      apply Reach.head
      dsimp only [step]
      cases ha : st'.all k with
      | none => exact Reach.refl plan _
      | some cs =>
        simp only []
        cases hm : cs.contains c with
        | false => simp only [Bool.not_false, if_true]; exact Reach.refl plan _
        | true =>
          apply Reach.head
          dsimp only [step]
          cases he : st'.errors (some c, k) with
          | some e => exact Reach.refl plan _
          | none =>
            apply Reach.head
            dsimp only [step]
            cases st'.cache (some c, k) <;> exact Reach.refl plan _
    | _ => exact Reach.refl plan _

theorem reach_lookup (st : St K F E) (ck : CKey K) :
    Reach plan (st, startPC ck) ((lookup plan st ck).1, .done (lookup plan st ck).2) := by
  obtain ⟨c, k⟩ := ck
  cases c with
  | none => exact reach_top plan st k none
  | some c => exact reach_next plan st c k

theorem reach_cut (st : St K F E) (ck : CKey K) (n : Nat) :
    ∃ pc, Reach plan (st, startPC ck) (lookupCut plan st ck n, pc) := by
  have top : ∀ k ret, ∃ pc, Reach plan (st, .top0 k ret) (lookupTopCut plan st k n, pc) := by
    intro k ret
    unfold lookupTopCut
    cases hc : st.cache (none, k) with
    | some f => exact ⟨_, Reach.refl plan _⟩
    | none =>
      cases hf : (plan k).fail with
      | true => exact ⟨_, Reach.refl plan _⟩
      | false =>
        refine ⟨.top2 k ret ((ws plan k).drop n), Reach.head plan ?_⟩
        simp only [step, hc]
        apply Reach.head
        simp only [step, hf, Bool.false_eq_true, if_false]
        have h := reach_writes plan k ret ((ws plan k).drop n) ((ws plan k).take n) (recordAll plan st k)
        rw [List.take_append_drop] at h
        exact h
  obtain ⟨c, k⟩ := ck
  cases c with
  | none => exact top k none
  | some c =>
    show ∃ pc, Reach plan (st, .next0 c k) (match st.cache (some c, k) with | some _ => st | none => _, pc)
    cases hc : st.cache (some c, k) with
    | some f => exact ⟨_, Reach.refl plan _⟩
    | none =>
      obtain ⟨pc, h⟩ := top k (some c)
      refine ⟨pc, Reach.head plan ?_⟩
      simp only [step, hc]
      exact h

theorem iter_ok (ok : PlanOK plan) (req : CKey K) (n : Nat) : ∀ (st : St K F E) (pc : PC K F E), CInv plan st →
    L plan st req pc → Ext st (iter plan n (st, pc)).1 ∧ CInv plan (iter plan n (st, pc)).1 ∧
      L plan (iter plan n (st, pc)).1 req (iter plan n (st, pc)).2 := by
  induction n with
  | zero => exact fun st _ g l => ⟨Ext.refl st, g, l⟩
  | succ n ih =>
    intro st pc g l
    obtain ⟨x, g', l'⟩ := step_ok plan ok st req pc g l
    obtain ⟨x', h⟩ := ih _ _ g' l'
    exact ⟨x.trans x', h⟩

theorem run_single (n : Nat) : ∀ (st : St K F E) (pc : PC K F E),
    (Sys.mk st [pc]).run plan (List.replicate n 0) = ⟨(iter plan n (st, pc)).1, [(iter plan n (st, pc)).2]⟩ := by
  induction n with
  | zero => intro st pc; rfl
  | succ n ih => intro st pc; exact ih _ _

end
end Ovld.ConcLookup

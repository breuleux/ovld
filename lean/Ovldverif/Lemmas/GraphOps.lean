import Ovldverif.Lemmas.GraphUpdate
import Ovldverif.Lemmas.GraphTopo
import Ovldverif.Lemmas.GraphEdit
/-!
# The global invariant of the graph of functions and its preservation by every operation
-/
set_option autoImplicit false
namespace Ovld

/-- the invariant behind C16 -/
structure Inv (g : Graph) : Prop where
  topo : ∃ ord, Topo g.len g.mx ord
  mirror : Mirror g.len g.mx g.ch
  /-- the table in service is current -/
  cons : ∀ n, g.cp n = true → g.bt n = g.defns g.depth n
  closed : LockClosed g.mx g.lk
  /-- every mixin edge above a compiled function along linked paths is linked back or locked -/
  safe : ∀ c, g.cp c = true → Fixed g.mx g.ch g.lk c

theorem Graph.proj_of_ge (g : Graph) (k : Nat) (h : g.len ≤ k) :
    g.mx k = [] ∧ g.ch k = [] ∧ g.cp k = false ∧ g.lk k = false := by
  unfold Graph.mx Graph.ch Graph.cp Graph.lk
  rw [Graph.get_of_ge g k h]
  exact ⟨rfl, rfl, rfl, rfl⟩

theorem Graph.cp_lt (g : Graph) (k : Nat) (h : g.cp k = true) : k < g.len :=
  Nat.lt_of_not_le fun hk => by rw [(Graph.proj_of_ge g k hk).2.2.1] at h; cases h

/-- every field is vacuous: on `{}` the hypotheses compute to `m ∈ []` or `false = true` -/
theorem Inv.empty : Inv {} :=
  ⟨⟨[], rfl, fun x hx => absurd hx (Nat.not_lt_zero x), fun _ _ hm => (nomatch hm)⟩, fun _ _ hc => (nomatch hc),
    fun _ hn => (nomatch hn), fun _ hx => (nomatch hx), fun _ hc => (nomatch hc)⟩

theorem Inv.ranked {g : Graph} (hi : Inv g) : ∃ rk, Ranked g.len g.mx rk :=
  hi.topo.elim fun _ ht => ⟨_, ht.ranked⟩

theorem Inv.mx_lt {g : Graph} (hi : Inv g) {n m : Nat} (h : m ∈ g.mx n) : m < g.len := by
  obtain ⟨rk, hr⟩ := hi.ranked
  exact (hr.2 n m h).2.1

theorem Inv.defns_depth {g : Graph} (hi : Inv g) (f n : Nat) (hn : n < g.len) (hf : g.len ≤ f) :
    g.defns f n = g.dd n := by
  obtain ⟨rk, hr⟩ := hi.ranked
  have := hr.1 n hn
  exact Graph.defns_fuel g hr f g.depth n (Nat.lt_of_lt_of_le this hf) (Nat.lt_succ_of_lt this)

theorem Inv.defns_unfold {g : Graph} (hi : Inv g) (n : Nat) :
    g.dd n = overlay (((g.mx n).map g.dd).foldl overlay []) (g.ow n) := by
  rw [Graph.dd, Graph.depth_eq, Graph.defns_succ, List.foldl_map]
  congr 1
  exact foldl_congr_mem _ _ _ (fun acc m hm => by rw [hi.defns_depth g.len m (hi.mx_lt hm) (Nat.le_refl _)]) _

theorem Inv.defns_old {g g' : Graph} (hi : Inv g) (hsame : ∀ k, k < g.len → g'.mx k = g.mx k ∧ g'.ow k = g.ow k)
    (hle : g.len ≤ g'.len) (m : Nat) (hm : m < g.len) : g'.dd m = g.dd m := by
  rw [Graph.dd, Graph.defns_local g g' _ m, Graph.depth_eq, hi.defns_depth _ m hm (by omega)]
  intro x hx
  have hx' : x < g.len := by
    rcases hx with rfl | hx
    · exact hm
    · obtain ⟨b, hb, _⟩ := hx.top_cases
      exact hi.mx_lt hb
  exact ⟨(hsame x hx').2, (hsame x hx').1⟩

theorem Inv.congr {g g' : Graph} (hs : Shape g g') (hlk : g'.lk = g.lk) (hcp : g'.cp = g.cp) (hbt : g'.bt = g.bt)
    (hi : Inv g) : Inv g' := by
  refine ⟨?_, Mirror.of_shape hs hi.mirror, ?_, ?_, ?_⟩
  · rw [hs.len, hs.mx]; exact hi.topo
  · intro n hn
    rw [hcp] at hn
    rw [hbt, hs.defns]
    exact hi.cons n hn
  · rw [hs.mx, hlk]; exact hi.closed
  · intro c hc
    rw [hcp] at hc
    rw [hs.mx, hs.ch, hlk]; exact hi.safe c hc

theorem Inv.compile {g g' : Graph} {n : Nat} (hi : Inv g) (h : CompRes g g' n) : Inv g' := by
  refine ⟨?_, Mirror.of_shape h.shape hi.mirror, ?_, h.closed hi.closed, ?_⟩
  · rw [h.shape.len, h.shape.mx]; exact hi.topo
  · intro k hk
    rw [h.shape.defns k]
    by_cases hkn : k = n
    · subst hkn; exact h.bt_n
    · rw [h.bt_ne k hkn]
      rw [h.cp_ne k hkn] at hk
      exact hi.cons k hk
  · intro k hk
    by_cases hkn : k = n
    · subst hkn; exact h.fixed
    · rw [h.cp_ne k hkn] at hk
      exact (hi.safe k hk).of_shape h.shape h.mono

theorem Inv.compileIf {g : Graph} (hi : Inv g) (b : Bool) (n : Nat) (hn : n < g.len)
    (h : (g.compileIf b n).2 = none) : Inv (g.compileIf b n).1 := by
  unfold Graph.compileIf at h ⊢
  split
  · next hb =>
    rw [if_pos hb] at h
    obtain ⟨rk, hr⟩ := hi.ranked
    cases hcomp : g.compile n with
    | mk g1 e =>
    rw [hcomp] at h
    exact hi.compile (Graph.compile_spec hr hi.mirror hn (h ▸ hcomp))
  · exact hi

theorem Inv.serve (cfg : Cfg) {g : Graph} (hi : Inv g) (n : Nat) (c : Call) : Inv (g.serve cfg n c).1 :=
  Inv.congr (Graph.setTab_shape g n _) (Graph.setTab_lk g n _) (Graph.proj_set Node.compiled g n _)
    (Graph.proj_set Node.built g n _) hi

theorem Inv.call (cfg : Cfg) {g : Graph} (hi : Inv g) (n : Nat) (hn : n < g.len) (c : Call)
    (h : (g.call cfg n c).2.1 ≠ Outcome.configError) : Inv (g.call cfg n c).1 := by
  rw [Graph.call_eq] at h ⊢
  have h1 := hi.compileIf (!(g.get n).compiled) n hn
  generalize g.compileIf (!(g.get n).compiled) n = r at h h1 ⊢
  obtain ⟨g1, _ | e⟩ := r
  · exact (h1 rfl).serve cfg n c
  · exact absurd rfl h

/-- a modification of `n`: the edit keeps the graph acyclic, `_update()` rebuilds what it reaches along linked paths -/
theorem Inv.modify {g g1 : Graph} (hi : Inv g) {n : Nat} {ms cs : List Nat} (hn : n < g.len)
    (he : Edit g g1 n ms cs) (hcs : ∀ k ∈ cs, k ∈ ms) (hms : ∀ m ∈ ms, m < g.len ∧ m ≠ n ∧ ¬ Anc g.mx n m)
    (h : (g.modify n g1).2 ≠ some Outcome.configError) : Inv (g.modify n g1).1 := by
  suffices hstep : ∀ g3, g.lk n = false → Graph.update g1.depth g1 n = (g3, none) → Inv g3 by
    cases hl : (g.get n).locked with
    | true => rw [Graph.modify_locked g n g1 hl]; exact hi
    | false =>
      rw [Graph.modify_unlocked g n g1 hl] at h ⊢
      generalize hu : Graph.update g1.depth g1 n = r at h ⊢
      obtain ⟨g3, _ | e⟩ := r
      · exact hstep g3 hl hu
      · exact absurd rfl h
  intro g3 hl h
  obtain ⟨ord, ht⟩ := hi.topo
  obtain ⟨ord1, ht1⟩ := he.topo ht hn hms
  have hmi1 := he.mirror hcs hn hi.mirror
  have hcp1 := Graph.cp_of_tb he.tb
  obtain ⟨hupd, hreach⟩ := Graph.update_spec g1.dd ord1.idxOf g1.depth g1 n g3 ht1.ranked hmi1 (fun _ => rfl)
    (by rw [he.len]; exact hn) (by rw [Graph.depth_eq]; omega) h
  refine ⟨?_, Mirror.of_shape hupd.shape hmi1, ?_, hupd.closed (he.lockClosed hl hi.closed), ?_⟩
  · rw [hupd.shape.len, hupd.shape.mx]; exact ⟨ord1, ht1⟩
  · intro c hc
    rw [hupd.cp, hcp1] at hc
    rw [hupd.shape.defns c]
    rcases hupd.bt c with hb | hb
    · by_cases hr : c = n ∨ Anc g.mx n c
      · -- at or below `n`: reached from `n` by a linked path (`anc_lpath`), hence rebuilt
        have hp : LPath g.ch n c := by
          rcases hr with rfl | hr
          · exact LPath.refl _
          · exact anc_lpath hi.closed (hi.safe c hc) hl hr (LPath.refl c)
        exact (hreach c (hp.mono he.ch_sub) (by rw [hcp1]; exact hc)).1
      · -- not below `n`: the table was current, and nothing its definitions read has changed
        rw [hb, Graph.bt_of_tb he.tb, hi.cons c hc, Graph.depth_eq g1, he.len]
        exact (he.defns_of_not_below hr _).symm
    · exact hb
  · intro c hc
    rw [hupd.cp] at hc
    by_cases hnc : LPath g1.ch n c
    · -- reached by `_update()`: locked anew by its build
      exact (hreach c hnc hc).2
    · -- not reached: it was safe, and its linked paths avoid the new edges
      exact (he.fixed_of_no_lpath hnc (hi.safe c (hcp1 ▸ hc))).of_shape hupd.shape hupd.mono

theorem Inv.register {g : Graph} (hi : Inv g) (n : Nat) (hn : n < g.len) (d : Def)
    (h : (g.register n d).2 ≠ some Outcome.configError) : Inv (g.register n d).1 := by
  rw [Graph.register_eq] at h ⊢
  exact hi.modify hn (Graph.setOwn_edit g n _) (fun _ h => h) (fun _ h => nomatch h) h

theorem Inv.unregister {g : Graph} (hi : Inv g) (n : Nat) (hn : n < g.len) (id : Nat)
    (h : (g.unregister n id).2 ≠ some Outcome.configError) : Inv (g.unregister n id).1 := by
  rw [Graph.unregister_eq] at h ⊢
  exact hi.modify hn (Graph.setOwn_edit g n _) (fun _ h => h) (fun _ h => nomatch h) h

theorem Inv.addMixins {g : Graph} (hi : Inv g) (n : Nat) (hn : n < g.len) (ms : List Nat)
    (hms : ∀ m ∈ ms, m < g.len ∧ m ≠ n ∧ ¬ Anc g.mx n m)
    (h : (g.addMixins n ms).2 ≠ some Outcome.configError) : Inv (g.addMixins n ms).1 := by
  have hms' : ∀ m ∈ ms.filter (fun m => m != n), m < g.len ∧ m ≠ n ∧ ¬ Anc g.mx n m :=
    fun m hm => hms m (List.mem_filter.mp hm).1
  rw [Graph.addMixins_eq] at h ⊢
  refine hi.modify hn (Graph.addEdges_edit g n _ hn (fun m hm => (hms' m hm).1)) (fun k hk => ?_) hms' h
  split at hk
  · exact hk
  · cases hk

theorem Graph.update_leaf (f : Nat) (g : Graph) (n : Nat) (hc : g.cp n = false) (hch : g.ch n = []) :
    Graph.update (f + 1) g n = (g, none) := by
  rw [Graph.update_succ]
  have hc' : (g.get n).compiled = false := hc
  have hch' : (g.get n).children = [] := hch
  simp [Graph.compileIf, hc', hch']

/-- the graph with the fresh node is named by an equation, so that `Inv.create` can keep it folded -/
theorem Inv.append {g g0 : Graph} (hi : Inv g) (lb : Bool) (hg0 : Graph.mk (g.nodes ++ [{ linkback := lb }]) = g0) :
    Inv g0 ∧ g0.len = g.len + 1 ∧ g0.mx = g.mx ∧ g0.ch = g.ch ∧ g0.lk = g.lk ∧ g0.cp = g.cp := by
  obtain ⟨ord, ht⟩ := hi.topo
  have hlen : g0.len = g.len + 1 := by subst hg0; simp [Graph.len]
  have hmx : g0.mx = g.mx := hg0 ▸ Graph.proj_append Node.mixins g _
  have hch : g0.ch = g.ch := hg0 ▸ Graph.proj_append Node.children g _
  have how : g0.ow = g.ow := hg0 ▸ Graph.proj_append Node.own g _
  have hlk : g0.lk = g.lk := hg0 ▸ Graph.proj_append Node.locked g _
  have hcp : g0.cp = g.cp := hg0 ▸ Graph.proj_append Node.compiled g _
  have hbt : g0.bt = g.bt := hg0 ▸ Graph.proj_append Node.built g _
  refine ⟨⟨?_, ?_, ?_, ?_, ?_⟩, hlen, hmx, hch, hlk, hcp⟩
  · rw [hlen, hmx]; exact ht.succ
  · rw [hlen, hmx, hch]
    exact fun a c hc => ⟨Nat.lt_succ_of_lt (hi.mirror a c hc).1, (hi.mirror a c hc).2⟩
  · intro c hc
    rw [hcp] at hc
    rw [hbt, hi.cons c hc, Graph.defns_local g g0 _ c fun x _ => ⟨congrFun how x, congrFun hmx x⟩,
      Graph.depth_eq g0, hlen]
    exact (hi.defns_depth _ c (Graph.cp_lt g c hc) (by omega)).symm
  · rw [hmx, hlk]; exact hi.closed
  · intro c hc
    rw [hcp] at hc
    rw [hmx, hch, hlk]; exact hi.safe c hc

theorem Inv.create {g : Graph} (hi : Inv g) (ms : List Nat) (lb : Bool) (hms : ∀ m ∈ ms, m < g.len) :
    Inv (g.create ms lb) := by
  rw [Graph.create_eq]
  generalize hg0 : Graph.mk (g.nodes ++ [{ linkback := lb }]) = g0
  obtain ⟨hi0, hlen0, hmx0, hch0, hlk0, hcp0⟩ := hi.append lb hg0
  have hpn := Graph.proj_of_ge g g.len (Nat.le_refl _)
  obtain ⟨rk, hr⟩ := hi.ranked
  have hms0 : ∀ m ∈ ms, m < g0.len ∧ m ≠ g.len ∧ ¬ Anc g0.mx g.len m := by
    intro m hm
    have hm' := hms m hm
    refine ⟨by omega, by omega, ?_⟩
    rw [hmx0]
    intro hanc
    have := (hr.anc hanc).1
    omega
  refine hi0.addMixins g.len (by omega) ms hms0 ?_
  -- the new node is neither compiled nor has children: `_update()` does nothing
  rw [Graph.addMixins_eq, Graph.modify_unlocked _ _ _ ((congrFun hlk0 g.len).trans hpn.2.2.2)]
  have he := Graph.addEdges_edit g0 g.len (ms.filter (fun m => m != g.len)) (by omega)
    (fun m hm => (hms0 m (List.mem_filter.mp hm).1).1)
  generalize g0.addEdges g.len _ = g2 at he ⊢
  have hcp2 : g2.cp g.len = false := by rw [Graph.cp_of_tb he.tb, hcp0]; exact hpn.2.2.1
  have hch2 : g2.ch g.len = [] := by
    apply List.eq_nil_iff_forall_not_mem.mpr
    intro c hc
    rcases (he.ch _ c).mp hc with h1 | ⟨_, h1⟩
    · rw [hch0, show g.ch g.len = [] from hpn.2.1] at h1; cases h1
    · split at h1
      · exact (hms0 _ (List.mem_filter.mp h1).1).2.1 rfl
      · cases h1
  rw [Graph.depth_eq, Graph.update_leaf _ g2 _ hcp2 hch2]
  exact fun h => nomatch h

end Ovld

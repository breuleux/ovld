import Ovldverif.Lemmas.GraphRel
import Ovldverif.Lemmas.ListFacts
/-!
# Topological orders of the mixin relation; re-ranking when mixins are added

`Topo L mx ord`: `ord` lists all `L` nodes, every mixin strictly before the functions that use it.  The position
in `ord` is a rank bounded by `L`, which is what the fuel `depth = L + 1` of the model needs.  Conversely any rank
that falls along the edges, bounded or not, gives an order: sort the nodes by it.  Adding mixins `ms` to `n`,
none of which derives from `n`, keeps the relation acyclic: rank `n` and its descendants behind all other nodes.
-/
set_option autoImplicit false
namespace Ovld

def Topo (L : Nat) (mx : Nat → List Nat) (ord : List Nat) : Prop :=
  ord.length = L ∧ (∀ x, x < L → x ∈ ord) ∧ ∀ n, ∀ m ∈ mx n, n < L ∧ m < L ∧ ord.idxOf m < ord.idxOf n

theorem Topo.ranked {L : Nat} {mx : Nat → List Nat} {ord : List Nat} (h : Topo L mx ord) :
    Ranked L mx ord.idxOf := by
  refine ⟨fun n hn => ?_, h.2.2⟩
  rw [← h.1]
  exact List.idxOf_lt_length_iff.mpr (h.2.1 n hn)

theorem Topo.of_rank {L : Nat} {mx : Nat → List Nat} (rk : Nat → Nat)
    (h : ∀ n, ∀ m ∈ mx n, n < L ∧ m < L ∧ rk m < rk n) : ∃ ord, Topo L mx ord := by
  obtain ⟨ord, hp, hs⟩ := exists_perm_sorted rk (List.range L)
  have hmem : ∀ x, x < L → x ∈ ord := fun x hx => hp.mem_iff.mpr (List.mem_range.mpr hx)
  refine ⟨ord, ?_, hmem, fun n m hm => ?_⟩
  · rw [hp.length_eq, List.length_range]
  · obtain ⟨hn, hm, hlt⟩ := h n m hm
    exact ⟨hn, hm, idxOf_lt_of_sorted rk hlt hs (hmem m hm)⟩

open Classical in
theorem Topo.addMixins {L : Nat} {mx : Nat → List Nat} {ord : List Nat} (h : Topo L mx ord) (n : Nat)
    (hn : n < L) (ms : List Nat) (hms : ∀ m ∈ ms, m < L ∧ m ≠ n ∧ ¬ Anc mx n m) (mx' : Nat → List Nat)
    (hmx' : ∀ k, ∀ m ∈ mx' k, m ∈ mx k ∨ (k = n ∧ m ∈ ms)) : ∃ ord', Topo L mx' ord' := by
  refine Topo.of_rank (fun x => if x = n ∨ Anc mx n x then L + ord.idxOf x else ord.idxOf x) fun k m hm => ?_
  rcases hmx' k m hm with hold | ⟨rfl, hnew⟩
  · obtain ⟨hk, hm, hlt⟩ := h.2.2 k m hold
    refine ⟨hk, hm, ?_⟩
    by_cases hdm : m = n ∨ Anc mx n m
    · have hdk : k = n ∨ Anc mx n k := by
        rcases hdm with rfl | hdm
        · exact Or.inr (Anc.direct hold)
        · exact Or.inr (Anc.step hold hdm)
      rw [if_pos hdm, if_pos hdk]
      exact Nat.add_lt_add_left hlt L
    · rw [if_neg hdm]
      split
      · exact Nat.lt_add_left L hlt
      · exact hlt
  · obtain ⟨hm, hne, hanc⟩ := hms m hnew
    have : ord.idxOf m < L := h.ranked.1 m hm
    refine ⟨hn, hm, ?_⟩
    rw [if_neg (fun hd => hd.elim hne hanc), if_pos (Or.inl rfl)]
    exact Nat.lt_add_right _ this

theorem Topo.succ {L : Nat} {mx : Nat → List Nat} {ord : List Nat} (h : Topo L mx ord) :
    ∃ ord', Topo (L + 1) mx ord' := by
  refine Topo.of_rank ord.idxOf fun n m hm => ?_
  obtain ⟨hn, hm, hlt⟩ := h.2.2 n m hm
  exact ⟨Nat.lt_succ_of_lt hn, Nat.lt_succ_of_lt hm, hlt⟩

end Ovld

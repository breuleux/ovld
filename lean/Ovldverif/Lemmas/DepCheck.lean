import Ovldverif.Spec.DepSpec
import Ovldverif.Lemmas.TyBasic
/-!
# Equations of `isinstanceOf`, `genCheck` (without fuel) and `memberCheck` (one step of fuel); guardable types

A type with a bound is handled uniformly: `isinstance` is the bound's `isinstance` and then (`Tri.andThen`) the
type's own condition; the guarded member code is the bound's member code and then the type's top-level code, as
`generate_guarded_checking_code` writes it.  `memberCheck_guardable` is C11; C10 uses the equations.
-/
set_option autoImplicit false
namespace Ovld

-- `Tri.andThen` is defined with the member code (Model/Dependent), hence the lemmas on `Tri` here

theorem Tri.ofBool_eq_yes (b : Bool) : Tri.ofBool b = .yes ↔ b = true := by
  cases b <;> simp [Tri.ofBool]

theorem Tri.ofBool_ne_raises (b : Bool) : Tri.ofBool b ≠ .raises := by
  cases b <;> nofun

theorem Tri.andThen_of_ne_yes {a : Tri} (h : a ≠ .yes) (f : Unit → Tri) : a.andThen f = a := by
  cases a <;> first | rfl | exact absurd rfl h

theorem Tri.andThen_eq_yes {a : Tri} {f : Unit → Tri} : a.andThen f = .yes ↔ a = .yes ∧ f () = .yes := by
  cases a <;> simp [Tri.andThen]

/-! One round of `instOf` (`rfl`: `simp only [instOf]` derives its equation lemmas first). -/
theorem instOf_union (W : DWorld) (f : Nat) (ts : List Ty) (v : DVal) :
    instOf W (f + 1) (.union ts) v = instOf.anyTri (ts.map fun t => instOf W f t v) := rfl
theorem instOf_inter (W : DWorld) (f : Nat) (ts : List Ty) (v : DVal) :
    instOf W (f + 1) (.inter ts) v = instOf.allTri (ts.map fun t => instOf W f t v) := rfl
theorem instOf_lit (W : DWorld) (f : Nat) (keys : List Nat) (b : Ty) (v : DVal) :
    instOf W (f + 1) (.lit keys b) v = (instOf W f b v).andThen fun _ => Tri.ofBool (keys.contains v.eq) := rfl
theorem instOf_fdep (W : DWorld) (f fn : Nat) (ps : List (Option Nat)) (b : Ty) (v : DVal) :
    instOf W (f + 1) (.fdep fn ps b) v = (instOf W f b v).andThen fun _ => W.chk fn ps v.vid := rfl
theorem instOf_prod (W : DWorld) (f : Nat) (ps : List Ty) (b : Ty) (v : DVal) :
    instOf W (f + 1) (.prod ps b) v = (instOf W f b v).andThen fun _ =>
      if v.kind != .seq then .no
      else if v.elems.length != ps.length then .no
      else instOf.allTri ((ps.zip v.elems).map fun p => instOf W f p.1 p.2) := rfl

theorem instOf_fuel (W : DWorld) : ∀ (f g : Nat) (t : Ty) (v : DVal), t.size < f → t.size < g →
    instOf W f t v = instOf W g t v := by
  intro f
  induction f with
  | zero => intro g t v h; exact absurd h (Nat.not_lt_zero _)
  | succ f ih =>
    intro g t v hf hg
    obtain ⟨g, rfl⟩ := Nat.exists_eq_add_one_of_ne_zero (Nat.ne_zero_of_lt hg)
    -- the recursive calls are on the bound, or on members of a list inside `t`: on smaller types
    have sub : ∀ t' v', t'.size < t.size → instOf W f t' v' = instOf W g t' v' :=
      fun t' v' h => ih g t' v' (by omega) (by omega)
    have subL : ∀ ts, Ty.sizeL ts < t.size → ∀ t' ∈ ts, ∀ v', instOf W f t' v' = instOf W g t' v' :=
      fun ts h t' ht' v' => sub t' v' (Nat.lt_of_le_of_lt (Ty.mem_sizeL ht') h)
    cases t with
    | union ts | inter ts =>
      simp only [instOf_union, instOf_inter,
        List.map_congr_left fun t' ht' => subL ts (Nat.lt_add_of_pos_left (by decide)) t' ht' v]
    | lit _ b | fdep _ _ b => simp only [instOf_lit, instOf_fdep, sub b v (Ty.bound?_size_lt rfl)]
    | prod ps b =>
      rw [instOf_prod, instOf_prod, sub b v (Ty.bound?_size_lt rfl), List.map_congr_left fun p hp =>
        subL ps (by simp only [Ty.size]; omega) p.1 (List.of_mem_zip hp).1 p.2]
    | _ => rfl

/-- only the size of the type matters: the `v.size` in the fuel of `isinstanceOf` is slack -/
theorem instOf_eq_isinstanceOf (W : DWorld) (f : Nat) (t : Ty) (v : DVal) (h : t.size < f) :
    instOf W f t v = isinstanceOf W t v :=
  instOf_fuel W _ _ t v h (by omega)

/-- `exactly`, `strict`, `hasm`, `pred` unfold likewise, by `rfl` -/
theorem isinstanceOf_cls (W : DWorld) (c : Nat) (v : DVal) :
    isinstanceOf W (.cls c) v = Tri.ofBool (W.H.sub v.cls c) := rfl

theorem instOf_members (W : DWorld) (v : DVal) {f : Nat} {ts : List Ty} (h : Ty.sizeL ts < f) :
    ts.map (fun t => instOf W f t v) = ts.map (fun t => isinstanceOf W t v) :=
  List.map_congr_left fun t ht => instOf_eq_isinstanceOf W f t v (by have := Ty.mem_sizeL ht; omega)

theorem isinstanceOf_union (W : DWorld) (ms : List Ty) (v : DVal) :
    isinstanceOf W (.union ms) v = instOf.anyTri (ms.map (fun m => isinstanceOf W m v)) := by
  rw [isinstanceOf, instOf_union, instOf_members W v (by simp only [Ty.size]; omega)]

theorem isinstanceOf_inter (W : DWorld) (ms : List Ty) (v : DVal) :
    isinstanceOf W (.inter ms) v = instOf.allTri (ms.map (fun m => isinstanceOf W m v)) := by
  rw [isinstanceOf, instOf_inter, instOf_members W v (by simp only [Ty.size]; omega)]

/-- `DependentType.__instancecheck__`: `isinstance(v, bound) and T.check(v)` -/
theorem isinstanceOf_lit (W : DWorld) (keys : List Nat) (b : Ty) (v : DVal) :
    isinstanceOf W (.lit keys b) v =
      (isinstanceOf W b v).andThen fun _ => Tri.ofBool (keys.contains v.eq) := by
  rw [isinstanceOf, instOf_lit, instOf_eq_isinstanceOf W _ b v (Nat.lt_add_right _ (Ty.bound?_size_lt rfl))]

theorem isinstanceOf_fdep (W : DWorld) (fn : Nat) (ps : List (Option Nat)) (b : Ty) (v : DVal) :
    isinstanceOf W (.fdep fn ps b) v = (isinstanceOf W b v).andThen fun _ => W.chk fn ps v.vid := by
  rw [isinstanceOf, instOf_fdep, instOf_eq_isinstanceOf W _ b v (Nat.lt_add_right _ (Ty.bound?_size_lt rfl))]

/-- `ProductType.check`: `isinstance(value, tuple)`, the length, the elements -/
theorem isinstanceOf_prod (W : DWorld) (ps : List Ty) (b : Ty) (v : DVal) :
    isinstanceOf W (.prod ps b) v = (isinstanceOf W b v).andThen fun _ =>
      if v.kind != .seq then .no
      else if v.elems.length != ps.length then .no
      else instOf.allTri ((ps.zip v.elems).map (fun p => isinstanceOf W p.1 p.2)) := by
  rw [isinstanceOf, instOf_prod, instOf_eq_isinstanceOf W _ b v (Nat.lt_add_right _ (Ty.bound?_size_lt rfl)),
    List.map_congr_left fun p hp => instOf_eq_isinstanceOf W _ p.1 p.2
      (by have := Ty.mem_sizeL (List.of_mem_zip hp).1; simp only [Ty.size]; omega)]

theorem isinstanceOf_outside (W : DWorld) (v : DVal) {t b : Ty} (ht : t.bound? = some b)
    (h : isinstanceOf W b v ≠ .yes) : isinstanceOf W t v = isinstanceOf W b v := by
  cases t <;> cases ht <;> simp only [isinstanceOf_lit, isinstanceOf_fdep, isinstanceOf_prod] <;>
    exact Tri.andThen_of_ne_yes h _

theorem splitOr_and_atoms (v : DVal) : ∀ (as : List CAtom),
    splitOr (withArg v (joinToks .and (as.map (fun a => [Tok.atom a])))) = [as.map (fun a => (a, v))]
  | [] => rfl
  | [a] => rfl
  | a :: b :: r => by
    show (match splitOr (withArg v (joinToks .and ((b :: r).map fun a => [Tok.atom a]))) with
      | g :: gs => ((a, v) :: g) :: gs | [] => [[(a, v)]]) = _
    rw [splitOr_and_atoms v (b :: r)]; rfl

/-- non-empty: `splitOr [] = [[]]`, the empty join is the empty string, which the model evaluates to `yes` -/
theorem splitOr_or_atoms (v : DVal) : ∀ (a : CAtom) (as : List CAtom),
    splitOr (withArg v (joinToks .or ((a :: as).map (fun a => [Tok.atom a])))) =
      (a :: as).map (fun a => [(a, v)])
  | a, [] => rfl
  | a, b :: r => by
    show (match [] :: splitOr (withArg v (joinToks .or ((b :: r).map fun a => [Tok.atom a]))) with
      | g :: gs => ((a, v) :: g) :: gs | [] => [[(a, v)]]) = _
    rw [splitOr_or_atoms v b r]; rfl

theorem evalAnd_atoms (W : DWorld) (v : DVal) : ∀ (as : List CAtom),
    evalAnd W (as.map (fun a => (a, v))) = instOf.allTri (as.map (fun a => evalAtom W a v))
  | [] => rfl
  | a :: r => by
    show (match evalAtom W a v with | .yes => evalAnd W (r.map fun a => (a, v)) | x => x) = _
    rw [evalAnd_atoms W v r, List.map_cons]
    cases evalAtom W a v <;> rfl

theorem evalOr_atoms (W : DWorld) (v : DVal) : ∀ (as : List CAtom),
    evalOr W (as.map (fun a => [(a, v)])) = instOf.anyTri (as.map (fun a => evalAtom W a v))
  | [] => rfl
  | a :: r => by
    show (match (match evalAtom W a v with | .yes => Tri.yes | x => x) with
      | .no => evalOr W (r.map fun a => [(a, v)]) | x => x) = _
    rw [evalOr_atoms W v r, List.map_cons]
    cases evalAtom W a v <;> rfl

/-- a template that is an `and`-chain of atoms: Python evaluates them left to right, as `all` does -/
theorem genCheck_and (W : DWorld) (t : Ty) (as : List CAtom) (v : DVal)
    (h : toks (t.size + 1) t = joinToks .and (as.map (fun a => [Tok.atom a]))) :
    genCheck W t v = instOf.allTri (as.map (fun a => evalAtom W a v)) := by
  unfold genCheck
  rw [h, splitOr_and_atoms, ← evalAnd_atoms]
  show (match evalAnd W _ with | .no => Tri.no | x => x) = _
  cases evalAnd W _ <;> rfl

theorem genCheck_single (W : DWorld) (t : Ty) (a : CAtom) (v : DVal)
    (h : toks (t.size + 1) t = [.atom a]) : genCheck W t v = evalAtom W a v := by
  rw [genCheck_and W t [a] v h]
  show instOf.allTri [evalAtom W a v] = _
  cases evalAtom W a v <;> rfl

theorem genCheck_lit (W : DWorld) (keys : List Nat) (b : Ty) (v : DVal) :
    genCheck W (.lit keys b) v = Tri.ofBool (keys.contains v.eq) :=
  genCheck_single W _ (.eqLit keys) v rfl

theorem genCheck_fdep (W : DWorld) (fn : Nat) (ps : List (Option Nat)) (b : Ty) (v : DVal) :
    genCheck W (.fdep fn ps b) v = W.chk fn ps v.vid :=
  genCheck_single W _ (.userChk fn ps) v rfl

theorem genCheck_union (W : DWorld) (m : Ty) (ms : List Ty) (v : DVal) :
    genCheck W (.union (m :: ms)) v =
      instOf.anyTri ((m :: ms).map (fun m => memberCheck W (m.size + 1) m v)) := by
  unfold genCheck
  have : toks ((Ty.union (m :: ms)).size + 1) (.union (m :: ms)) =
      joinToks .or (((m :: ms).map CAtom.member).map (fun a => [Tok.atom a])) := by
    rw [List.map_map]; rfl
  rw [this, List.map_cons, splitOr_or_atoms, ← List.map_cons, evalOr_atoms, List.map_map]
  rfl

theorem genCheck_inter (W : DWorld) (ms : List Ty) (v : DVal) :
    genCheck W (.inter ms) v = instOf.allTri (ms.map (fun m => memberCheck W (m.size + 1) m v)) := by
  rw [genCheck_and W _ (ms.map .member) v (by rw [List.map_map]; rfl), List.map_map]
  rfl

/-- indexing `arg[i]` for `i = 0 .. n-1` on a sequence of length `n` walks its elements in order -/
theorem zipIdx_elems {α : Type} (G : Ty → Option DVal → α) : ∀ (ps : List Ty) (es pre : List DVal),
    ps.length = es.length →
    (ps.zipIdx pre.length).map (fun pi => G pi.1 (pre ++ es)[pi.2]?) =
      (ps.zip es).map (fun p => G p.1 (some p.2))
  | [], _, _, _ => rfl
  | p :: ps, [], _, h => absurd h (Nat.succ_ne_zero _)
  | p :: ps, e :: es, pre, h => by
    have ih := zipIdx_elems G ps es (pre ++ [e]) (by simpa using h)
    simp only [List.length_append, List.length_cons, List.length_nil, List.append_assoc,
      List.cons_append, List.nil_append] at ih
    simp only [List.zipIdx_cons, List.map_cons, List.zip_cons_cons, ih]
    simp

/-- `len(arg) == n and isinstance(arg[0], T1) and ...` on every kind of value: `len` raises on a value without
    length, indexing raises on a sized non-sequence.  The right-hand side is, word for word, the `.prod` branch of
    `whole` in `memberCheck` (`memberCheck_bounded` relies on it). -/
theorem genCheck_prod (W : DWorld) (ps : List Ty) (b : Ty) (v : DVal) :
    genCheck W (.prod ps b) v =
      if v.kind == .plain then .raises
      else if v.elems.length != ps.length then .no
      else if v.kind != .seq then (if ps.isEmpty then .yes else .raises)
      else instOf.allTri ((ps.zip v.elems).map (fun p => isinstanceOf W p.1 p.2)) := by
  rw [genCheck_and W _ (.lenEq ps.length :: ps.zipIdx.map (fun pi => .elemInst pi.2 pi.1)) v
    (by rw [List.map_cons, List.map_map]; rfl), List.map_cons, List.map_map]
  by_cases hl : v.elems.length = ps.length
  · simp only [evalAtom, hl, beq_self_eq_true, bne_self_eq_false, Tri.ofBool, if_true, Bool.false_eq_true, if_false,
      Function.comp_def]
    cases hk : v.kind
    · rfl
    · have := congrArg instOf.allTri (zipIdx_elems
        (fun p o => match o with | some e => isinstanceOf W p e | none => Tri.raises) ps v.elems [] hl.symm)
      exact this
    · cases ps <;> rfl
  · have hl' : (v.elems.length == ps.length) = false := by simpa using hl
    simp only [evalAtom, bne, hl', Tri.ofBool]
    cases v.kind <;> rfl

theorem memberCheck_union (W : DWorld) (f : Nat) (ms : List Ty) (v : DVal) :
    memberCheck W (f + 1) (.union ms) v = instOf.anyTri (ms.map (fun m => memberCheck W f m v)) := rfl

theorem memberCheck_inter (W : DWorld) (f : Nat) (ms : List Ty) (v : DVal) :
    memberCheck W (f + 1) (.inter ms) v = instOf.allTri (ms.map (fun m => memberCheck W f m v)) := rfl

/-- `generate_guarded_checking_code`: `((<code of the bound>) and (<code of the type>))`, the guard left out when the
    bound is `object`.  The code of the bound is its unguarded code; for a bound that is not value-dependent at its
    top that is also its member code. -/
theorem memberCheck_bounded (W : DWorld) (f : Nat) (v : DVal) {t b : Ty} (ht : t.bound? = some b)
    (hb : b.isDepTop = false) :
    memberCheck W (f + 1) t v =
      if b == .cls 0 then genCheck W t v
      else (memberCheck W (f + 1) b v).andThen fun _ => genCheck W t v := by
  -- the right-hand sides of `genCheck_lit / _prod / _fdep` are the branches of `whole` in `memberCheck`: after the
  -- rewrite both sides are one term.  `cases b` makes `whole b` reduce; `hb` removes the `b` with a bound, for which
  -- `whole b` is not `memberCheck b`
  cases t <;> cases ht <;> simp only [genCheck_lit, genCheck_prod, genCheck_fdep] <;>
    cases b <;> first | (cases hb; done) | rfl

/-- the types for which the guarded, parenthesised member code is `isinstance`, relative to a value `v`:
    * types without `codegen` other than parameterized generics (`isinstance(arg, t)` is emitted);
    * `Literal` / `FuncDependentType` / `tuple[...]` whose bound is itself guardable and not value-dependent at
      its top (the code of a bound is emitted *without* that bound's own guard);
      for `tuple[...]` the bound must accept sequence values only (in Python the bound is `tuple`);
    * unions and intersections of guardable types. -/
inductive Guardable (W : DWorld) (v : DVal) : Ty → Prop
  | cls (c : Nat) : Guardable W v (.cls c)
  | exactly (tag c : Nat) : Guardable W v (.exactly tag c)
  | strict (tag c : Nat) : Guardable W v (.strict tag c)
  | hasm (tag m : Nat) : Guardable W v (.hasm tag m)
  | pred (tag k : Nat) : Guardable W v (.pred tag k)
  | lit (keys : List Nat) (b : Ty) : Guardable W v b → b.isDepTop = false → Guardable W v (.lit keys b)
  | fdep (fn : Nat) (ps : List (Option Nat)) (b : Ty) : Guardable W v b → b.isDepTop = false →
      Guardable W v (.fdep fn ps b)
  | prod (ps : List Ty) (b : Ty) : Guardable W v b → b.isDepTop = false →
      (isinstanceOf W b v = .yes → v.kind = .seq) → Guardable W v (.prod ps b)
  | union (ms : List Ty) : (∀ m, m ∈ ms → Guardable W v m) → Guardable W v (.union ms)
  | inter (ms : List Ty) : (∀ m, m ∈ ms → Guardable W v m) → Guardable W v (.inter ms)

theorem Guardable.union_iff {W : DWorld} {v : DVal} {ms : List Ty} :
    Guardable W v (.union ms) ↔ ∀ m ∈ ms, Guardable W v m :=
  ⟨fun g => by cases g; assumption, .union ms⟩

theorem Guardable.inter_iff {W : DWorld} {v : DVal} {ms : List Ty} :
    Guardable W v (.inter ms) ↔ ∀ m ∈ ms, Guardable W v m :=
  ⟨fun g => by cases g; assumption, .inter ms⟩

/-- the top-level code does not test the bound: the type-level stage of dispatch has.  `hseq`: see `C11_prod_iff` -/
theorem genCheck_bounded (W : DWorld) (v : DVal) {t b : Ty} (ht : t.bound? = some b)
    (hb : isinstanceOf W b v = .yes) (hseq : ∀ ps, t = .prod ps b → v.kind = .seq) :
    genCheck W t v = isinstanceOf W t v := by
  cases t <;> cases ht
  · rw [genCheck_lit, isinstanceOf_lit, hb]; rfl
  · rw [genCheck_prod, isinstanceOf_prod, hb]
    simp only [Tri.andThen, hseq _ rfl, bne_self_eq_false, Bool.false_eq_true, if_false,
      show (VKind.seq == VKind.plain) = false from rfl]
  · rw [genCheck_fdep, isinstanceOf_fdep, hb]; rfl

/-- `htop` (every class is a subclass of `object`): no guard is emitted for the bound `object`.

    By induction on the derivation of `Guardable`, not on the fuel: `∀ f` is carried so that the hypothesis applies
    to the members at the smaller fuel inside `memberCheck (f + 1)`. -/
theorem memberCheck_guardable (W : DWorld) (v : DVal) (htop : W.H.sub v.cls 0 = true) (t : Ty)
    (g : Guardable W v t) : ∀ f, t.size < f → memberCheck W f t v = isinstanceOf W t v := by
  -- a member with a bound: outside the bound both sides are the bound's answer, inside it `genCheck_bounded`
  have bounded : ∀ {t b : Ty}, Guardable W v t → t.bound? = some b → b.isDepTop = false →
      (∀ f, b.size < f → memberCheck W f b v = isinstanceOf W b v) →
      ∀ f, t.size < f → memberCheck W f t v = isinstanceOf W t v := by
    intro t b g ht hb ih f hf
    obtain ⟨f, rfl⟩ := Nat.exists_eq_add_one_of_ne_zero (Nat.ne_zero_of_lt hf)
    rw [memberCheck_bounded W f v ht hb, ih _ (Nat.lt_trans (Ty.bound?_size_lt ht) hf)]
    by_cases hbv : isinstanceOf W b v = .yes
    · have hseq : ∀ ps, t = .prod ps b → v.kind = .seq := fun ps e => by
        subst e; cases g with | prod _ _ _ _ hq => exact hq hbv
      rw [genCheck_bounded W v ht hbv hseq, hbv]; split <;> rfl
    · have hne : b ≠ .cls 0 := fun e => by rw [e, isinstanceOf_cls, htop] at hbv; exact hbv rfl
      rw [if_neg (by simpa using hne), Tri.andThen_of_ne_yes hbv, isinstanceOf_outside W v ht hbv]
  have members : ∀ {ms : List Ty} {f : Nat},
      (∀ m ∈ ms, ∀ f, m.size < f → memberCheck W f m v = isinstanceOf W m v) → 2 + Ty.sizeL ms < f + 1 →
      ms.map (fun m => memberCheck W f m v) = ms.map (fun m => isinstanceOf W m v) :=
    fun ih hf => List.map_congr_left fun m hm => ih m hm _ (by have := Ty.mem_sizeL hm; omega)
  induction g with
  | union ms gm ih =>
    intro f hf
    obtain ⟨f, rfl⟩ := Nat.exists_eq_add_one_of_ne_zero (Nat.ne_zero_of_lt hf)
    rw [memberCheck_union, isinstanceOf_union, members ih hf]
  | inter ms gm ih =>
    intro f hf
    obtain ⟨f, rfl⟩ := Nat.exists_eq_add_one_of_ne_zero (Nat.ne_zero_of_lt hf)
    rw [memberCheck_inter, isinstanceOf_inter, members ih hf]
  | lit keys b gb hb ih => exact bounded (.lit keys b gb hb) rfl hb ih
  | fdep fn ps b gb hb ih => exact bounded (.fdep fn ps b gb hb) rfl hb ih
  | prod ps b gb hb hq ih => exact bounded (.prod ps b gb hb hq) rfl hb ih
  | _ =>
    intro f hf
    obtain ⟨f, rfl⟩ := Nat.exists_eq_add_one_of_ne_zero (Nat.ne_zero_of_lt hf)
    rfl

end Ovld

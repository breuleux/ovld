import Ovldverif.Spec.Types
/-! Sizes, `Ty.depLt`, `hook` and `tstruct`; the last two for arbitrary recursive-call parameters `to` / `sc`. -/
set_option autoImplicit false
namespace Ovld

theorem Ty.mem_sizeL {t : Ty} {ts : List Ty} (h : t ∈ ts) : t.size ≤ Ty.sizeL ts := by
  induction ts with
  | nil => cases h
  | cons a as ih =>
    show t.size ≤ a.size + Ty.sizeL as
    rcases List.mem_cons.mp h with e | e
    · subst e; omega
    · have := ih e; omega

-- `simp only [Ty.size]` derives the equation lemmas of `Ty.size` here, once, for the modules that import this one
theorem Ty.bound?_size_lt {t b : Ty} (h : t.bound? = some b) : b.size < t.size := by
  cases t <;> cases h <;> simp only [Ty.size] <;> omega

theorem TOrd.merge_singleton (x : TOrd) : TOrd.merge [x] = x := by
  cases x <;> rfl

theorem ofSub_less {x y : Bool} : ofSub x y = .less ↔ x = true ∧ y = false := by
  cases x <;> cases y <;> decide

theorem ofSub_same {x y : Bool} : ofSub x y = .same ↔ x = true ∧ y = true := by
  cases x <;> cases y <;> decide

namespace Ty

theorem countAnyNot_pos {m o : List Bool} (h : 0 < countAnyNot m o) : true ∈ m := by
  fun_induction countAnyNot m o with
  | case1 a as b bs ih =>
    cases a
    · exact List.mem_cons_of_mem _ (ih (by simpa using h))
    · exact List.mem_cons_self
  | case2 m o hne => exact absurd h (Nat.lt_irrefl 0)

theorem countAnyNot_self (m : List Bool) : countAnyNot m m = 0 := by
  induction m with
  | nil => rfl
  | cons a as ih => cases a <;> exact (Nat.zero_add _).trans ih

/-- `self < other` needs a parameter of `other` that is `Any` -/
theorem depLt_needs_any {s o : Ty} (h : true ∉ o.anyMask) : depLt s o = false := by
  cases s with
  | fdep f p b =>
    cases hd : depLt (.fdep f p b) o
    · rfl
    · simp only [depLt, Bool.and_eq_true, decide_eq_true_eq] at hd
      exact absurd (countAnyNot_pos hd.1.2) h
  | _ => rfl

theorem depLt_false_of_noAny (s : Ty) (f : Nat) (ps : List (Option Nat)) (b : Ty)
    (h : ps.all Option.isSome = true) : depLt s (.fdep f ps b) = false :=
  depLt_needs_any fun hm => by
    obtain ⟨p, hp, hn⟩ := List.mem_map.mp hm
    have := List.all_eq_true.mp h p hp
    cases p <;> simp at hn this

theorem depLt_false_of_same_mask {s o : Ty} (h : s.anyMask = o.anyMask) : depLt s o = false := by
  cases s <;> simp [depLt, h, countAnyNot_self]

theorem depLt_asymm (a b : Ty) (h : depLt a b = true) : depLt b a = false := by
  cases a with
  | fdep f p c =>
    cases b with
    | fdep g q d =>
      simp only [depLt, Bool.and_eq_true, beq_iff_eq, decide_eq_true_eq] at h
      simp only [depLt, h.2, Nat.lt_irrefl, decide_false, Bool.and_false, Bool.false_and]
    | _ => rfl
  | _ => cases h

/-- a `Literal` / `Dependent` type, the part of `isDepTop` that is not a `tuple[...]`: the value-dependent types whose
    `__type_order__` is `DependentType.__type_order__` against every operand (`ProductType` overrides it) -/
def isCond : Ty → Bool
  | .lit .. => true | .fdep .. => true | _ => false

end Ty

section hook
variable {to : Ty → Ty → TOrd} {sc : Ty → Ty → Bool} {t1 t2 : Ty}

theorem hook_isSome (to : Ty → Ty → TOrd) (sc : Ty → Ty → Bool) (t1 t2 : Ty) :
    (hook to sc t1 t2).isSome = t1.effHook t2 := by
  cases t1 <;> first | rfl | (cases t2 <;> rfl)

theorem hook_none_of_not_eff (h : t1.effHook t2 = false) : hook to sc t1 t2 = Option.none :=
  Option.not_isSome_iff_eq_none.mp (by rw [hook_isSome, h]; exact Bool.false_ne_true)

theorem hook_some_of_eff (to : Ty → Ty → TOrd) (sc : Ty → Ty → Bool) (h : t1.effHook t2 = true) :
    ∃ r, hook to sc t1 t2 = some r :=
  Option.isSome_iff_exists.mp (by rw [hook_isSome, h])

theorem hook_cond {t b : Ty} (other : Ty) (hc : t.isCond = true) (hb : t.bound? = some b) :
    hook to sc t other = some (depHook to sc t b other) := by
  cases t <;> cases hc <;> cases hb <;> rfl

end hook

section tstruct
variable (H : Hier) (to : Ty → Ty → TOrd) (sc : Ty → Ty → Bool)

theorem Ty.gen_cases {P : Ty → Ty → Prop}
    (gg : ∀ o1 a1 o2 a2, P (.gen o1 a1) (.gen o2 a2))
    (gl : ∀ o1 a1 t2, t2.isGen = false → P (.gen o1 a1) t2)
    (gr : ∀ t1 o2 a2, t1.isGen = false → P t1 (.gen o2 a2))
    (pp : ∀ t1 t2, t1.isGen = false → t2.isGen = false → P t1 t2) (t1 t2 : Ty) : P t1 t2 := by
  have gen : ∀ {t : Ty}, t.isGen = true → ∃ o a, t = .gen o a := fun {t} h => by
    cases t with
    | gen o a => exact ⟨o, a, rfl⟩
    | _ => cases h
  cases g1 : t1.isGen <;> cases g2 : t2.isGen
  · exact pp _ _ g1 g2
  · obtain ⟨o, a, rfl⟩ := gen g2; exact gr _ _ _ g1
  · obtain ⟨o, a, rfl⟩ := gen g1; exact gl _ _ _ g2
  · obtain ⟨o1, a1, rfl⟩ := gen g1; obtain ⟨o2, a2, rfl⟩ := gen g2; exact gg ..

theorem tstruct_gen_gen (o1 o2 : Nat) {a1 a2 : List Ty} (h1 : a1.isEmpty = false) (h2 : a2.isEmpty = false) :
    tstruct H to sc (.gen o1 a1) (.gen o2 a2) =
      if to (.cls o1) (.cls o2) = .same then
        (if a1.length == a2.length then TOrd.merge (zipWithT to a1 a2) else .none)
      else to (.cls o1) (.cls o2) := by
  simp only [tstruct, h1, h2, Bool.not_false, Bool.and_false, Bool.false_eq_true, if_false, bne_iff_ne, ne_eq,
    ite_not, beq_iff_eq]

-- once the operand that is not an alias has a constructor, `tstruct` unfolds by computation
theorem tstruct_gen_left {t2 : Ty} (g : t2.isGen = false) (o1 : Nat) (a1 : List Ty) :
    tstruct H to sc (.gen o1 a1) t2 = if to (.cls o1) t2 == .same then .less else to (.cls o1) t2 := by
  cases t2 <;> first | rfl | cases g

theorem tstruct_gen_right {t1 : Ty} (g : t1.isGen = false) (o2 : Nat) (a2 : List Ty) :
    tstruct H to sc t1 (.gen o2 a2) = (tstruct H to sc (.gen o2 a2) t1).opposite := by
  cases t1 <;> first | rfl | cases g

-- `tstruct.eq_4` is the equation Lean generates for the last arm of `tstruct`; it assumes that no earlier arm matched,
-- as `∀ o a, t = .gen o a → False`: the shape of `Ty.not_gen`
theorem Ty.not_gen {t : Ty} (h : t.isGen = false) (o : Nat) (a : List Ty) : t = .gen o a → False := by
  rintro rfl; cases h

theorem tstruct_plain {t1 t2 : Ty} (g1 : t1.isGen = false) (g2 : t2.isGen = false) :
    tstruct H to sc t1 t2 = ofSub (pyIssub H sc t1 t2) (pyIssub H sc t2 t1) :=
  tstruct.eq_4 H to sc t1 t2 (Ty.not_gen g1) (Ty.not_gen g2) (fun o a _ _ e _ => Ty.not_gen g1 o a e)

end tstruct

end Ovld

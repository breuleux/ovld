import Ovldverif.Lemmas.SpecRule
import Ovldverif.Lemmas.LevelsStatic
import Ovldverif.Lemmas.PlanOK
/-!
# The candidate list of `MultiTypeMap.mro`

For a table whose declared types are plain classes and a well-formed key: `candidates` is defined, its
elements correspond one-to-one (by handler id) to the methods applicable to the key, and the specificity
vector of a candidate is the list of levels of its declared types in the slots of the key.
-/
set_option autoImplicit false
namespace Ovld

section
variable (cfg : Cfg) (ms : List Meth)

theorem slotTypes_mem (s : Slot) (t : Ty) : t ∈ slotTypes cfg ms s ↔ ∃ m ∈ ms, m.tyAt s = some t := by
  unfold slotTypes
  rw [(List.mergeSort_perm _ _).mem_iff, List.mem_reverse, dedupTy_mem, List.mem_reverse, List.mem_filterMap]

/-- the `{handler: level}` dict of a slot, given the levels of the registered types -/
def tmRes (s : Slot) (lv : List (Ty × Nat)) : List (Nat × Nat) :=
  lv.flatMap (fun (t, l) => (ms.filter (fun m => m.tyAt s == some t)).map (fun m => (m.id, l)))

theorem mem_tmRes (s : Slot) (lv : List (Ty × Nat)) (id l : Nat) :
    (id, l) ∈ tmRes ms s lv ↔ ∃ t, (t, l) ∈ lv ∧ ∃ m ∈ ms, m.tyAt s = some t ∧ m.id = id := by
  unfold tmRes
  rw [List.mem_flatMap]
  constructor
  · rintro ⟨⟨t, l'⟩, hl, hm⟩
    dsimp only at hm
    obtain ⟨m, hmf, e⟩ := List.mem_map.mp hm
    obtain ⟨hm', ht⟩ := List.mem_filter.mp hmf
    cases e
    exact ⟨t, hl, m, hm', eq_of_beq ht, rfl⟩
  · rintro ⟨t, hl, m, hm, ht, rfl⟩
    refine ⟨(t, l), hl, ?_⟩
    dsimp only
    exact List.mem_map.mpr ⟨m, List.mem_filter.mpr ⟨hm, by rw [ht]; exact beq_self_eq_true _⟩, rfl⟩

/-- levels of the registered types of the slot of a key entry; `[]` on `CycleError`, hence `LevelsDefined` below -/
def keyLv (e : Slot × Ty) : List (Ty × Nat) := (levels cfg.H e.2 (slotTypes cfg ms e.1)).getD []

abbrev LevelsDefined (e : Slot × Ty) : Prop := levels cfg.H e.2 (slotTypes cfg ms e.1) = some (keyLv cfg ms e)

structure SlotOK (e : Slot × Ty) : Prop where
  lv_eq : levels cfg.H e.2 (slotTypes cfg ms e.1) = some (keyLv cfg ms e)
  nodup : ((keyLv cfg ms e).map (·.1)).Nodup
  mem : ∀ t, t ∈ (keyLv cfg ms e).map (·.1) ↔
    (∃ m ∈ ms, m.tyAt e.1 = some t) ∧ subclasscheck cfg.H e.2 t = true
  cls : ∀ t ∈ (keyLv cfg ms e).map (·.1), ∃ d, t = .cls d
  mono : ∀ x y lx ly, (Ty.cls x, lx) ∈ keyLv cfg ms e → (Ty.cls y, ly) ∈ keyLv cfg ms e →
    cfg.H.sub x y = true → x ≠ y → lx > ly

theorem slotOK_of_cls (wf : cfg.H.WF) (anti : cfg.H.Antisym) (hst : staticTable ms = true)
    (e : Slot × Ty) (he : e.2.isCls = true) : SlotOK cfg ms e := by
  obtain ⟨s, t⟩ := e
  cases t <;> simp [Ty.isCls] at he
  rename_i c
  have hs : allCls (slotTypes cfg ms s) := fun t ht => by
    obtain ⟨m, hm, hty⟩ := (slotTypes_mem cfg ms s t).mp ht
    exact tyAt_cls hst hm hty
  have nd := slotTypes_nodup cfg ms s
  obtain ⟨lv, hlv⟩ := levels_defined cfg.H wf anti c _ hs nd
  have hk : keyLv cfg ms (s, .cls c) = lv := by
    unfold keyLv; dsimp only; rw [hlv]; rfl
  have hp := levels_fst_perm cfg.H wf anti c _ hs nd lv hlv
  rw [applicableTys] at hp
  refine ⟨by rw [hk]; exact hlv, ?_, ?_, ?_, ?_⟩ <;> rw [hk]
  · exact (levels_fst cfg.H nd hlv).1
  · exact fun t => by rw [hp.mem_iff, List.mem_filter, slotTypes_mem]
  · exact fun t ht => hs t (List.mem_filter.mp (hp.mem_iff.mp ht)).1
  · exact levels_mono cfg.H wf anti c _ hs nd lv hlv

/-!
On any table the candidates are the handlers that accept the call shape and whose declared type has a level in
every slot of the key (`mem_ids`).  On a static table the types with a level are the registered superclasses of
the argument class (`SlotOK.mem`), so the candidates are the applicable methods. -/

/-- the filtered `{handler: level}` dict of one key entry -/
def slotRes (na : Nat) (nm : List Nat) (e : Slot × Ty) : List (Nat × Nat) :=
  (tmRes ms e.1 (keyLv cfg ms e)).filter (fun p => sigOK ms na nm p.1)

theorem tmLookup_eq (e : Slot × Ty) (h : LevelsDefined cfg ms e) :
    tmLookup cfg ms e.1 e.2 = some (tmRes ms e.1 (keyLv cfg ms e)) := by
  unfold tmLookup
  rw [h]
  rfl

theorem slotResults_eq (k : Key) (hall : ∀ e ∈ k, LevelsDefined cfg ms e) :
    slotResults cfg ms k = some (k.map (slotRes cfg ms (keyNargs k) (keyNames k))) := by
  unfold slotResults
  apply mapM_some_of_forall
  rintro ⟨s, cls⟩ he
  dsimp only
  rw [tmLookup_eq cfg ms (s, cls) (hall _ he)]
  rfl

theorem slotRes_fst_nodup (hid : (ms.map (·.id)).Nodup) (na : Nat) (nm : List Nat) (e : Slot × Ty)
    (h : LevelsDefined cfg ms e) :
    ((slotRes cfg ms na nm e).map (·.1)).Nodup :=
  ((List.filter_sublist).map _).nodup (tmLookup_fst_nodup cfg ms hid e.1 e.2 _ (tmLookup_eq cfg ms e h))

theorem findMeth_of_mem (hid : (ms.map (·.id)).Nodup) (m : Meth) (hm : m ∈ ms) : findMeth ms m.id = some m := by
  unfold findMeth
  cases h : ms.find? (fun m' => m'.id == m.id) with
  | none => exact absurd (List.find?_eq_none.mp h m hm) (by simp)
  | some m' =>
    rw [eq_of_nodup_map (·.id) hid (List.mem_of_find?_eq_some h) hm (by simpa using List.find?_some h)]

def methOf (id : Nat) : Meth := (findMeth ms id).getD default

theorem methOf_mem (hid : (ms.map (·.id)).Nodup) (m : Meth) (hm : m ∈ ms) : methOf ms m.id = m := by
  unfold methOf
  rw [findMeth_of_mem ms hid m hm]
  rfl

theorem sigOK_of_mem (hid : (ms.map (·.id)).Nodup) (m : Meth) (hm : m ∈ ms) (k : Key) :
    sigOK ms (keyNargs k) (keyNames k) m.id = arityOK m k := by
  unfold sigOK
  rw [findMeth_of_mem ms hid m hm]
  rfl

theorem applicableTo_iff (k : Key) (m : Meth) :
    applicableTo cfg.H k m = true ↔
      arityOK m k = true ∧ ∀ e ∈ k, ∃ t, m.tyAt e.1 = some t ∧ subclasscheck cfg.H e.2 t = true := by
  unfold applicableTo
  rw [Bool.and_eq_true, List.all_eq_true]
  refine and_congr_right (fun _ => forall_congr' (fun e => forall_congr' (fun _ => ?_)))
  cases m.tyAt e.1 with
  | none => simp
  | some t => simp

def hasLevel (e : Slot × Ty) (m : Meth) : Prop := ∃ t, m.tyAt e.1 = some t ∧ t ∈ (keyLv cfg ms e).map (·.1)

theorem mem_slotRes (na : Nat) (nm : List Nat) (e : Slot × Ty) (id : Nat) :
    id ∈ (slotRes cfg ms na nm e).map (·.1) ↔
      ∃ m ∈ ms, m.id = id ∧ sigOK ms na nm id = true ∧ hasLevel cfg ms e m := by
  constructor
  · intro hmem
    obtain ⟨⟨id', l⟩, hp, rfl⟩ := List.mem_map.mp hmem
    obtain ⟨hp, hsig⟩ := List.mem_filter.mp hp
    obtain ⟨t, hl, m, hm, hty, hmid⟩ := (mem_tmRes ms e.1 _ id' l).mp hp
    exact ⟨m, hm, hmid, hsig, t, hty, List.mem_map.mpr ⟨(t, l), hl, rfl⟩⟩
  · rintro ⟨m, hm, hmid, hsig, t, hty, ht⟩
    obtain ⟨⟨t', l⟩, hl, rfl⟩ := List.mem_map.mp ht
    exact List.mem_map.mpr ⟨(id, l), List.mem_filter.mpr
      ⟨(mem_tmRes ms e.1 _ id l).mpr ⟨t', hl, m, hm, hty, hmid⟩, hsig⟩, rfl⟩

theorem hasLevel_iff (e : Slot × Ty) (h : SlotOK cfg ms e) (m : Meth) (hm : m ∈ ms) :
    hasLevel cfg ms e m ↔ ∃ t, m.tyAt e.1 = some t ∧ subclasscheck cfg.H e.2 t = true :=
  exists_congr fun t => and_congr_right fun hty => (h.mem t).trans (and_iff_right ⟨m, hm, hty⟩)

/-- only types that pass the `subclasscheck` filter enter the batches -/
theorem hasLevel_sound (e : Slot × Ty) (h : LevelsDefined cfg ms e) (m : Meth) (hl : hasLevel cfg ms e m) :
    ∃ t, m.tyAt e.1 = some t ∧ subclasscheck cfg.H e.2 t = true := by
  obtain ⟨t, hty, ht⟩ := hl
  exact ⟨t, hty, ((levels_fst cfg.H (slotTypes_nodup cfg ms e.1) h).2 t ht).2⟩

def lvlOf (lv : List (Ty × Nat)) (t : Ty) : Nat :=
  match lv.find? (fun p => p.1 == t) with
  | some p => p.2
  | none => 0

theorem lvlOf_of_mem (lv : List (Ty × Nat)) (nd : (lv.map (·.1)).Nodup) (t : Ty) (l : Nat) (h : (t, l) ∈ lv) :
    lvlOf lv t = l := by
  unfold lvlOf
  rw [find_fst_of_mem lv nd t l h]

theorem lvlIn_slotRes (hid : (ms.map (·.id)).Nodup) (na : Nat) (nm : List Nat) (e : Slot × Ty)
    (h : SlotOK cfg ms e) (m : Meth) (hm : m ∈ ms) (hsig : sigOK ms na nm m.id = true) (t : Ty)
    (hty : m.tyAt e.1 = some t) (ht : t ∈ (keyLv cfg ms e).map (·.1)) :
    lvlIn (slotRes cfg ms na nm e) m.id = lvlOf (keyLv cfg ms e) t := by
  obtain ⟨⟨t', l⟩, hl, rfl⟩ := List.mem_map.mp ht
  unfold lvlIn
  rw [lvlOf_of_mem _ h.nodup t' l hl, find_fst_of_mem _ (slotRes_fst_nodup cfg ms hid na nm e h.lv_eq) m.id l
    (List.mem_filter.mpr ⟨(mem_tmRes ms e.1 _ m.id l).mpr ⟨t', hl, m, hm, hty, rfl⟩, hsig⟩)]

/-- the facts about the candidate list that the ranking argument uses -/
structure CandsOK (k : Key) (cs : List Cand) : Prop where
  nodup : (cs.map (·.id)).Nodup
  sound : ∀ c ∈ cs, ∃ m ∈ ms, m.id = c.id ∧ applicableTo cfg.H k m = true ∧ c.prio = m.prio ∧ c.tb = m.tb ∧
    c.spec = k.map (fun e => lvlOf (keyLv cfg ms e) ((m.tyAt e.1).getD default))
  complete : ∀ m ∈ ms, applicableTo cfg.H k m = true → ∃ c ∈ cs, c.id = m.id

theorem arityOK_nil (m : Meth) : arityOK m [] = (m.reqPos == 0 && m.reqNames.isEmpty) := by
  unfold arityOK keyNargs keyNames
  cases h : m.reqNames <;> simp
  cases h0 : m.reqPos <;> simp

/-- the handler ids `candidates` starts from, on any table (`k = []`: those that require no argument) -/
theorem mem_ids (hid : (ms.map (·.id)).Nodup) (k : Key) (id : Nat) :
    id ∈ (if k.isEmpty then zeroArgIds ms else candIds (k.map (slotRes cfg ms (keyNargs k) (keyNames k)))) ↔
      ∃ m ∈ ms, m.id = id ∧ arityOK m k = true ∧ ∀ e ∈ k, hasLevel cfg ms e m := by
  by_cases hne : k = []
  · subst hne
    simp only [zeroArgIds, List.isEmpty_nil, if_true, List.mem_map, List.mem_filter, arityOK_nil]
    exact ⟨fun ⟨m, ⟨hm, h⟩, e⟩ => ⟨m, hm, e, h, fun _ h => nomatch h⟩, fun ⟨m, hm, e, h, _⟩ => ⟨m, ⟨hm, h⟩, e⟩⟩
  rw [if_neg (by simpa using hne), mem_candIds _ (by simpa using hne)]
  simp only [List.forall_mem_map, mem_slotRes]
  constructor
  · intro h
    obtain ⟨e0, he0⟩ := List.exists_mem_of_ne_nil k hne
    obtain ⟨m, hm, hmid, hsig, _⟩ := h e0 he0
    refine ⟨m, hm, hmid, by rw [← sigOK_of_mem ms hid m hm, hmid]; exact hsig, fun e he => ?_⟩
    obtain ⟨m', hm', hmid', _, ht⟩ := h e he
    rw [← eq_of_nodup_map (·.id) hid hm' hm (hmid'.trans hmid.symm)]
    exact ht
  · rintro ⟨m, hm, hmid, har, hsl⟩ e he
    exact ⟨m, hm, hmid, by rw [← hmid, sigOK_of_mem ms hid m hm]; exact har, hsl e he⟩

theorem mem_ids_static (hid : (ms.map (·.id)).Nodup) (k : Key) (hall : ∀ e ∈ k, SlotOK cfg ms e) (id : Nat) :
    id ∈ (if k.isEmpty then zeroArgIds ms else candIds (k.map (slotRes cfg ms (keyNargs k) (keyNames k)))) ↔
      ∃ m ∈ ms, m.id = id ∧ applicableTo cfg.H k m = true := by
  rw [mem_ids cfg ms hid]
  refine exists_congr fun m => and_congr_right fun hm => and_congr_right fun _ => ?_
  rw [applicableTo_iff]
  exact and_congr_right fun _ => forall_congr' fun e => forall_congr' fun he => hasLevel_iff cfg ms e (hall e he) m hm

theorem candidates_eq (k : Key) (hall : ∀ e ∈ k, LevelsDefined cfg ms e) :
    candidates cfg ms k = some (((if k.isEmpty then zeroArgIds ms
        else candIds (k.map (slotRes cfg ms (keyNargs k) (keyNames k)))).mergeSort
      (fun a b => cfg.hRank a ≤ cfg.hRank b)).map (mkCand ms (k.map (slotRes cfg ms (keyNargs k) (keyNames k))))) := by
  unfold candidates
  rw [slotResults_eq cfg ms k hall]

theorem candidates_methOf {k : Key} {cs : List Cand} (h : candidates cfg ms k = some cs) {c : Cand} (hc : c ∈ cs) :
    c.prio = (methOf ms c.id).prio ∧ c.tb = (methOf ms c.id).tb := by
  unfold candidates at h
  split at h
  · cases h
  · cases Option.some.inj h
    obtain ⟨id, _, rfl⟩ := List.mem_map.mp hc
    exact ⟨rfl, rfl⟩

theorem candidates_some_lv {k : Key} {cs : List Cand} (h : candidates cfg ms k = some cs) :
    ∀ e ∈ k, LevelsDefined cfg ms e := by
  intro e he
  cases hrs : slotResults cfg ms k with
  | none => simp [candidates, hrs] at h
  | some rs =>
    obtain ⟨r, _, hr⟩ := mapM_option_mem _ k rs hrs e he
    unfold LevelsDefined keyLv
    cases hl : levels cfg.H e.2 (slotTypes cfg ms e.1) with
    | none => simp [tmLookup, hl] at hr
    | some lv => rfl

theorem candidates_sound (hid : (ms.map (·.id)).Nodup) (k : Key)
    (cs : List Cand) (h : candidates cfg ms k = some cs) (c : Cand) (hc : c ∈ cs) :
    ∃ m ∈ ms, m.id = c.id ∧ applicableTo cfg.H k m = true := by
  have hlv := candidates_some_lv cfg ms h
  rw [candidates_eq cfg ms k hlv] at h
  cases Option.some.inj h
  obtain ⟨id, hidm, rfl⟩ := List.mem_map.mp hc
  rw [(List.mergeSort_perm _ _).mem_iff, mem_ids cfg ms hid] at hidm
  obtain ⟨m, hm, hmid, har, hsl⟩ := hidm
  exact ⟨m, hm, hmid, (applicableTo_iff cfg k m).mpr
    ⟨har, fun e he => hasLevel_sound cfg ms e (hlv e he) m (hsl e he)⟩⟩

theorem candidates_ok (hid : (ms.map (·.id)).Nodup) (k : Key) (hall : ∀ e ∈ k, SlotOK cfg ms e) :
    ∃ cs, candidates cfg ms k = some cs ∧ CandsOK cfg ms k cs := by
  have hc := candidates_eq cfg ms k (fun e he => (hall e he).lv_eq)
  refine ⟨_, hc, candidates_nodup cfg ms hid k _ hc, ?_, ?_⟩
  · intro c hcm
    obtain ⟨id, hidm, rfl⟩ := List.mem_map.mp hcm
    rw [(List.mergeSort_perm _ _).mem_iff] at hidm
    obtain ⟨m, hm, hmid, happ⟩ := (mem_ids_static cfg ms hid k hall id).mp hidm
    subst hmid
    refine ⟨m, hm, rfl, happ, ?_, ?_, ?_⟩
    · exact congrArg Meth.prio (methOf_mem ms hid m hm)
    · exact congrArg Meth.tb (methOf_mem ms hid m hm)
    · simp only [mkCand, List.map_map]
      apply List.map_congr_left
      intro e he
      obtain ⟨har, hsl⟩ := (applicableTo_iff cfg k m).mp happ
      obtain ⟨t, hty, ht⟩ := (hasLevel_iff cfg ms e (hall e he) m hm).mpr (hsl e he)
      simp only [Function.comp_apply, hty, Option.getD_some]
      exact lvlIn_slotRes cfg ms hid _ _ e (hall e he) m hm
        (by rw [sigOK_of_mem ms hid m hm]; exact har) t hty ht
  · intro m hm happ
    exact ⟨mkCand ms _ m.id, List.mem_map.mpr ⟨m.id, (List.mergeSort_perm _ _).mem_iff.mpr
      ((mem_ids_static cfg ms hid k hall m.id).mpr ⟨m, hm, rfl, happ⟩), rfl⟩, rfl⟩

end

end Ovld

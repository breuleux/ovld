import Ovldverif.Model.TyEq
import Ovldverif.Lemmas.TyBasic
import Ovldverif.Lemmas.ListFacts
/-!
# Fuel adequacy, and the equations of `typeorder` / `subclasscheck` without fuel

One round of `tord` / `subc` (`tordStep` / `subcStep`) only calls back on operands of smaller total size, so any two
fuels above `size t1 + size t2` agree (`fuel_irrelevant`), and `typeorder` / `subclasscheck` are a fixed point of the
round (`typeorder_eq` / `subclasscheck_eq`): the equations read off the code.
-/
set_option autoImplicit false
namespace Ovld
variable (H : Hier)

/-- one round of `typeorder` (and, below, of `subclasscheck`) over the recursive calls `to` / `sc` -/
def tordStep (to : Ty → Ty → TOrd) (sc : Ty → Ty → Bool) (t1 t2 : Ty) : TOrd :=
  if Ty.beq t1 t2 then .same else
  match hook to sc t1 t2 with
  | some r => r
  | none =>
    match hook to sc t2 t1 with
    | some r => r.opposite
    | none => tstruct H to sc t1 t2

def subcStep (sc : Ty → Ty → Bool) (t1 t2 : Ty) : Bool :=
  if Ty.beq t1 t2 then true else subcNe H sc t1 t2

theorem tord_succ (f : Nat) : tord H (f + 1) = tordStep H (tord H f) (subc H f) := rfl
theorem subc_succ (f : Nat) : subc H (f + 1) = subcStep H (subc H f) := rfl

def AgreeBelow {α : Type} (n : Nat) (f g : Ty → Ty → α) : Prop :=
  ∀ a b : Ty, a.size + b.size < n → f a b = g a b

section congr
variable {H} {to to' : Ty → Ty → TOrd} {sc sc' : Ty → Ty → Bool} {t1 t2 : Ty}

theorem AgreeBelow.zip {α : Type} {f g : Ty → Ty → α} {as bs : List Ty}
    (h : AgreeBelow (Ty.sizeL as + Ty.sizeL bs + 1) f g) : zipWithT f as bs = zipWithT g as bs := by
  induction as generalizing bs with
  | nil => rfl
  | cons a as ih =>
    cases bs with
    | nil => rfl
    | cons b bs =>
      change AgreeBelow (a.size + Ty.sizeL as + (b.size + Ty.sizeL bs) + 1) f g at h
      show f a b :: zipWithT f as bs = g a b :: zipWithT g as bs
      rw [h a b (by omega), ih fun x y hxy => h x y (by omega)]

theorem pyIssub_congr (hsc : AgreeBelow (t1.size + t2.size) sc sc') :
    pyIssub H sc t1 t2 = pyIssub H sc' t1 t2 := by
  cases t2 with
  | union ts =>
    exact any_congr_mem _ _ _ fun t ht => by
      have := Ty.mem_sizeL ht
      exact hsc t1 t (by simp only [Ty.size]; omega)
  | inter ts =>
    exact all_congr_mem _ _ _ fun t ht => by
      have := Ty.mem_sizeL ht
      exact hsc t1 t (by simp only [Ty.size]; omega)
  | _ => rfl

theorem subcNe_congr (hsc : AgreeBelow (t1.size + t2.size) sc sc') :
    subcNe H sc t1 t2 = subcNe H sc' t1 t2 := by
  have hb : ∀ b, t2.bound? = some b → sc t1 b = sc' t1 b := fun b hb => by
    have := Ty.bound?_size_lt hb
    exact hsc t1 b (by omega)
  cases t2 with
  | union ts | inter ts => exact pyIssub_congr (H := H) hsc  -- the same `__subclasscheck__` as under `issubclass`
  | lit _ b | prod _ b | fdep _ _ b => exact congrArg (fun x => if t1.isDepTop then false else x) (hb b rfl)
  | gen o2 a2 =>
    cases t1 with
    | gen o1 a1 =>
      exact congrArg (fun l => H.sub o1 o2 && a1.length == a2.length && l.all id)
        (AgreeBelow.zip (as := a1) (bs := a2) fun a b h => hsc a b (by simp only [Ty.size]; omega))
    | _ => rfl
  | cls c2 => cases t1 <;> rfl
  | _ => rfl

theorem hook_congr (hto : AgreeBelow (t1.size + t2.size) to to')
    (hsc : AgreeBelow (t1.size + t2.size) sc sc') :
    hook to sc t1 t2 = hook to' sc' t1 t2 := by
  have hdep : ∀ b, t1.bound? = some b → depHook to sc t1 b t2 = depHook to' sc' t1 b t2 := fun b hb => by
    have := Ty.bound?_size_lt hb
    unfold depHook
    cases hob : t2.bound? with
    | none => simp only [hsc t2 b (by omega), hsc b t2 (by omega)]
    | some ob =>
      have := Ty.bound?_size_lt hob
      simp only [hto b ob (by omega)]
  cases t1 with
  | union ts | inter ts =>
    simp only [hook]
    rw [List.map_congr_left fun t ht => by
      have := Ty.mem_sizeL ht
      exact hto t t2 (by simp only [Ty.size]; omega)]
  | exactly tg c =>
    simp only [hook]
    rw [hto (.cls c) t2 (by simp only [Ty.size]; omega)]
  | prod ps b =>
    cases t2 with
    | prod qs b2 =>
      simp only [hook]
      rw [AgreeBelow.zip fun a b h => hto a b (by simp only [Ty.size]; omega)]
    | _ => rfl
  | lit _ b | fdep _ _ b => simp only [hook, hdep b rfl]
  | _ => rfl

theorem tstruct_congr (hto : AgreeBelow (t1.size + t2.size) to to')
    (hsc : AgreeBelow (t1.size + t2.size) sc sc') :
    tstruct H to sc t1 t2 = tstruct H to' sc' t1 t2 := by
  induction t1, t2 using Ty.gen_cases with
  | gg o1 a1 o2 a2 =>
    simp only [tstruct]
    rw [hto (.cls o1) (.cls o2) (by simp only [Ty.size]; omega),
      AgreeBelow.zip fun a b h => hto a b (by simp only [Ty.size]; omega)]
  | gl o1 a1 t2 g2 =>
    rw [tstruct_gen_left H to sc g2, tstruct_gen_left H to' sc' g2,
      hto (.cls o1) t2 (by simp only [Ty.size]; omega)]
  | gr t1 o2 a2 g1 =>
    rw [tstruct_gen_right H to sc g1, tstruct_gen_right H to' sc' g1, tstruct_gen_left H to sc g1,
      tstruct_gen_left H to' sc' g1, hto (.cls o2) t1 (by simp only [Ty.size]; omega)]
  | pp t1 t2 g1 g2 =>
    rw [tstruct_plain H to sc g1 g2, tstruct_plain H to' sc' g1 g2, pyIssub_congr hsc,
      pyIssub_congr fun a b h => hsc a b (by omega)]

theorem tordStep_congr (hto : AgreeBelow (t1.size + t2.size) to to')
    (hsc : AgreeBelow (t1.size + t2.size) sc sc') :
    tordStep H to sc t1 t2 = tordStep H to' sc' t1 t2 := by
  unfold tordStep
  rw [hook_congr hto hsc, tstruct_congr hto hsc,
    hook_congr (t1 := t2) (t2 := t1) (fun a b h => hto a b (by omega)) (fun a b h => hsc a b (by omega))]

theorem subcStep_congr (hsc : AgreeBelow (t1.size + t2.size) sc sc') :
    subcStep H sc t1 t2 = subcStep H sc' t1 t2 := by
  unfold subcStep
  rw [subcNe_congr hsc]

end congr

theorem fuel_irrelevant : ∀ (f g : Nat) (t1 t2 : Ty), t1.size + t2.size < f → t1.size + t2.size < g →
    tord H f t1 t2 = tord H g t1 t2 ∧ subc H f t1 t2 = subc H g t1 t2 := by
  intro f
  induction f with
  | zero => intro g t1 t2 h; omega
  | succ f ih =>
    intro g t1 t2 hf hg
    cases g with
    | zero => omega
    | succ g =>
      have hto : AgreeBelow (t1.size + t2.size) (tord H f) (tord H g) :=
        fun a b h => (ih g a b (by omega) (by omega)).1
      have hsc : AgreeBelow (t1.size + t2.size) (subc H f) (subc H g) :=
        fun a b h => (ih g a b (by omega) (by omega)).2
      rw [tord_succ, tord_succ, subc_succ, subc_succ]
      exact ⟨tordStep_congr hto hsc, subcStep_congr hsc⟩

theorem tord_fuel (f : Nat) (t1 t2 : Ty) (h : t1.size + t2.size < f) :
    tord H f t1 t2 = typeorder H t1 t2 :=
  (fuel_irrelevant H f _ t1 t2 h (by omega)).1

theorem subc_fuel (f : Nat) (t1 t2 : Ty) (h : t1.size + t2.size < f) :
    subc H f t1 t2 = subclasscheck H t1 t2 :=
  (fuel_irrelevant H f _ t1 t2 h (by omega)).2

-- by definition `typeorder H t1 t2` is `tord H (n + 1) t1 t2 = tordStep H (tord H n) (subc H n) t1 t2` with
-- `n = t1.size + t2.size`, and `n` is enough fuel for every call the round makes
theorem typeorder_eq (t1 t2 : Ty) :
    typeorder H t1 t2 = tordStep H (typeorder H) (subclasscheck H) t1 t2 :=
  tordStep_congr (fun a b h => tord_fuel H _ a b h) (fun a b h => subc_fuel H _ a b h)

theorem subclasscheck_eq (t1 t2 : Ty) :
    subclasscheck H t1 t2 = subcStep H (subclasscheck H) t1 t2 :=
  subcStep_congr (fun a b h => subc_fuel H _ a b h)

/-! the three ways `typeorder` answers for unequal operands (mro.py L56-106), and `subclasscheck` likewise -/

variable {H} {t1 t2 : Ty}

theorem typeorder_of_hook {r : TOrd} (hne : t1 ≠ t2)
    (h : hook (typeorder H) (subclasscheck H) t1 t2 = some r) : typeorder H t1 t2 = r := by
  rw [typeorder_eq, tordStep, Ty.beq_false_of_ne hne, h]; rfl

theorem typeorder_of_hook_right {r : TOrd} (hne : t1 ≠ t2) (h1 : t1.effHook t2 = false)
    (h : hook (typeorder H) (subclasscheck H) t2 t1 = some r) : typeorder H t1 t2 = r.opposite := by
  rw [typeorder_eq, tordStep, Ty.beq_false_of_ne hne, hook_none_of_not_eff h1, h]; rfl

theorem typeorder_struct (hne : t1 ≠ t2) (h1 : t1.effHook t2 = false) (h2 : t2.effHook t1 = false) :
    typeorder H t1 t2 = tstruct H (typeorder H) (subclasscheck H) t1 t2 := by
  rw [typeorder_eq, tordStep, Ty.beq_false_of_ne hne, hook_none_of_not_eff h1,
    hook_none_of_not_eff h2]; rfl

theorem subclasscheck_ne (hne : t1 ≠ t2) :
    subclasscheck H t1 t2 = subcNe H (subclasscheck H) t1 t2 := by
  rw [subclasscheck_eq, subcStep, Ty.beq_false_of_ne hne]; rfl

theorem typeorder_union {ts : List Ty} {t : Ty} (hne : Ty.union ts ≠ t) :
    typeorder H (.union ts) t = unionOrd (ts.map (typeorder H · t)) :=
  typeorder_of_hook hne rfl

theorem typeorder_inter {ts : List Ty} {t : Ty} (hne : Ty.inter ts ≠ t) :
    typeorder H (.inter ts) t = interOrd (ts.map (typeorder H · t)) :=
  typeorder_of_hook hne rfl

theorem typeorder_cond {t b o : Ty} (hc : t.isCond = true) (hb : t.bound? = some b) (hne : t ≠ o) :
    typeorder H t o = depHook (typeorder H) (subclasscheck H) t b o :=
  typeorder_of_hook hne (hook_cond o hc hb)

/-- against an operand that is not value-dependent: the `else` branch of `DependentType.__type_order__` -/
theorem typeorder_cond_nondep {t b o : Ty} (hc : t.isCond = true) (hb : t.bound? = some b)
    (ho : o.bound? = Option.none) :
    typeorder H t o = if subclasscheck H o b || subclasscheck H b o then .less else .none := by
  rw [typeorder_cond hc hb (by rintro rfl; rw [hb] at ho; cases ho), depHook, ho]

theorem typeorder_gen_left {o : Nat} {a : List Ty} {t2 : Ty} (g : t2.isGen = false)
    (h : t2.effHook (.gen o a) = false) :
    typeorder H (.gen o a) t2 = if typeorder H (.cls o) t2 == .same then .less else typeorder H (.cls o) t2 := by
  rw [typeorder_struct (by rintro rfl; cases g) rfl h, tstruct_gen_left _ _ _ g]

theorem typeorder_gen_gen {o1 o2 : Nat} {a1 a2 : List Ty} (hne : Ty.gen o1 a1 ≠ .gen o2 a2)
    (h1 : a1.isEmpty = false) (h2 : a2.isEmpty = false) :
    typeorder H (.gen o1 a1) (.gen o2 a2) =
      if typeorder H (.cls o1) (.cls o2) = .same then
        (if a1.length == a2.length then TOrd.merge (zipWithT (typeorder H) a1 a2) else .none)
      else typeorder H (.cls o1) (.cls o2) := by
  rw [typeorder_struct hne rfl rfl, tstruct_gen_gen _ _ _ o1 o2 h1 h2]

theorem subclasscheck_union {t : Ty} {ts : List Ty} (hne : t ≠ .union ts) :
    subclasscheck H t (.union ts) = ts.any (subclasscheck H t ·) :=
  subclasscheck_ne hne

theorem subclasscheck_inter {t : Ty} {ts : List Ty} (hne : t ≠ .inter ts) :
    subclasscheck H t (.inter ts) = ts.all (subclasscheck H t ·) :=
  subclasscheck_ne hne

/-- on plain classes: `==` first (mro.py L111), then `issubclass`; no assumption on the table -/
theorem subclasscheck_cls_cls (a b : Nat) : subclasscheck H (.cls a) (.cls b) = (a == b || H.sub a b) := by
  by_cases h : a = b
  · rw [h, subclasscheck_eq, subcStep, Ty.beq_refl, beq_self_eq_true]; rfl
  · rw [subclasscheck_ne fun e => h (Ty.cls.inj e), beq_false_of_ne h]; rfl

theorem subclasscheck_gen_gen (o1 o2 : Nat) (a1 a2 : List Ty) :
    subclasscheck H (.gen o1 a1) (.gen o2 a2) =
      (Ty.beq (.gen o1 a1) (.gen o2 a2) ||
        (H.sub o1 o2 && a1.length == a2.length && (zipWithT (subclasscheck H) a1 a2).all id)) := by
  rw [subclasscheck_eq, subcStep]
  cases Ty.beq (.gen o1 a1) (.gen o2 a2) <;> rfl

end Ovld

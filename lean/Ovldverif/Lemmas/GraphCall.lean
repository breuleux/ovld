import Ovldverif.Lemmas.GraphEdit
import Ovldverif.Lemmas.FnInv
/-!
# The tables in service in the graph of functions

`Inv` (Lemmas/GraphOps.lean) ties `built` to the static structure; here `mm` / `ana` of every node are tied to `built`:
a compiled node carries a successful analysis of `built` and, when the handlers of `built` are distinct, a table
satisfying `FInv`.  Every build re-establishes this from a blank table; a call preserves it.
-/
set_option autoImplicit false
namespace Ovld

def TabOK (cfg : Cfg) (t : Tab) : Prop :=
  t.compiled = true → analyze (t.built.map (·.1.d)) = .ok t.ana ∧
    (DistinctHandlers (Fn.methsOf t.built) →
      FInv cfg t.built t.ana t.view)

theorem Tab.Fresh.ok (cfg : Cfg) {t : Tab} (h : t.Fresh) : TabOK cfg t := by
  obtain ⟨ds, ana, ha, rfl⟩ := h
  intro _
  exact ⟨ha, fun _ => Fn.built_inv cfg ds ana⟩

theorem Tab.view_call {cfg : Cfg} {t : Tab} {B : List (Def × Int)} {A : Analysis} (h : FInv cfg B A t.view)
    (hd : DistinctHandlers (Fn.methsOf B)) (c : Call) :
    FInv cfg B A ({ t with mm := (t.view.call cfg c).1.mm } : Tab).view ∧
      MMap.Le (Fn.cfgOf cfg B) t.mm (t.view.call cfg c).1.mm :=
  have r := call_rel cfg _ _ (hd.planOK _) _ _ h h c
  ⟨h.setMM _ r.inv1.mm, r.le1⟩

theorem TabOK.call (cfg : Cfg) (t : Tab) (c : Call) (h : TabOK cfg t) :
    TabOK cfg { t with mm := (t.view.call cfg c).1.mm } := fun hc =>
  ⟨(h hc).1, fun hd => (Tab.view_call ((h hc).2 hd) hd c).1⟩

def AllOK (cfg : Cfg) (g : Graph) : Prop := ∀ k, TabOK cfg (g.tb k)

theorem AllOK.upd {cfg : Cfg} {g g' : Graph} (h : AllOK cfg g) (hu : TUpd g g') : AllOK cfg g' := by
  intro k
  rcases hu k with hk | hk
  · rw [hk]; exact h k
  · exact hk.ok cfg

theorem AllOK.empty (cfg : Cfg) : AllOK cfg {} := fun _ hc => nomatch hc

theorem AllOK.call {cfg : Cfg} {g : Graph} (h : AllOK cfg g) (n : Nat) (c : Call) :
    AllOK cfg (g.call cfg n c).1 := by
  rw [Graph.call_eq]
  have h1 := h.upd (Graph.compileIf_builds (!(g.get n).compiled) g n).tabs
  generalize g.compileIf (!(g.get n).compiled) n = r at h1 ⊢
  obtain ⟨g1, _ | e⟩ := r
  · intro k
    rw [Graph.serve_tb]
    split
    · exact TabOK.call cfg (g1.tb n) c (h1 n)
    · exact h1 k
  · exact h1

theorem AllOK.step {cfg : Cfg} {g : Graph} (h : AllOK cfg g) (op : GOp) : AllOK cfg (g.step cfg op).1 := by
  cases op with
  | call n c => exact h.call n c
  | _ => exact h.upd (Graph.step_tabs cfg g _ fun _ _ e => nomatch e)

theorem TabOK.call_as_fresh (cfg : Cfg) (t : Tab) (c : Call) (h : TabOK cfg t) (hc : t.compiled = true)
    (hd : DistinctHandlers (Fn.methsOf t.built)) :
    (t.view.call cfg c).2.1 = ((Fn.fresh t.built).call cfg c).2.1 ∧
    (t.view.call cfg c).2.2.1 = ((Fn.fresh t.built).call cfg c).2.2.1 := by
  obtain ⟨ha, hf⟩ := h hc
  rw [Fn.call_fresh_ok cfg _ t.ana ha c]
  have r := call_rel cfg _ _ (hd.planOK _) _ _ (hf hd) (Fn.built_inv cfg _ t.ana) c
  exact ⟨r.outcome, r.trace⟩

end Ovld

/-!
# Ancestors, linked paths, ranks, locks: the relations on node numbers the graph invariant is made of

`mx`, `ch`, `lk` are arbitrary functions: nothing here mentions the model.
-/
set_option autoImplicit false
namespace Ovld

/-- `a` is a proper ancestor of `n`: reachable upwards through `mixins` -/
inductive Anc (mx : Nat → List Nat) : Nat → Nat → Prop
  | direct {m n : Nat} : m ∈ mx n → Anc mx m n
  | step {a m n : Nat} : m ∈ mx n → Anc mx a m → Anc mx a n

/-- linked path downwards: a chain through `children` -/
inductive LPath (ch : Nat → List Nat) : Nat → Nat → Prop
  | refl (a : Nat) : LPath ch a a
  | step {a b c : Nat} : b ∈ ch a → LPath ch b c → LPath ch a c

theorem Anc.trans {mx : Nat → List Nat} {a b c : Nat} (h1 : Anc mx a b) (h2 : Anc mx b c) : Anc mx a c := by
  induction h2 with
  | direct hm => exact Anc.step hm h1
  | step hm _ ih => exact Anc.step hm ih

theorem Anc.top_cases {mx : Nat → List Nat} {a c : Nat} (h : Anc mx a c) :
    ∃ b, a ∈ mx b ∧ (b = c ∨ Anc mx b c) := by
  induction h with
  | direct hm => exact ⟨_, hm, Or.inl rfl⟩
  | step hm _ ih =>
    obtain ⟨b, hb, hbc⟩ := ih
    refine ⟨b, hb, Or.inr ?_⟩
    rcases hbc with rfl | hbc
    · exact Anc.direct hm
    · exact Anc.step hm hbc

theorem LPath.trans {ch : Nat → List Nat} {a b c : Nat} (h1 : LPath ch a b) (h2 : LPath ch b c) : LPath ch a c := by
  induction h1 with
  | refl => exact h2
  | step hb _ ih => exact LPath.step hb (ih h2)

theorem LPath.snoc {ch : Nat → List Nat} {a b c : Nat} (h1 : LPath ch a b) (h2 : c ∈ ch b) : LPath ch a c :=
  h1.trans (LPath.step h2 (LPath.refl c))

theorem LPath.tail_cases {ch : Nat → List Nat} {a c : Nat} (h : LPath ch a c) :
    a = c ∨ ∃ b, c ∈ ch b ∧ LPath ch a b := by
  induction h with
  | refl => exact Or.inl rfl
  | @step a b c hb _ ih =>
    rcases ih with rfl | ⟨b', hb', hp⟩
    · exact Or.inr ⟨a, hb, LPath.refl a⟩
    · exact Or.inr ⟨b', hb', LPath.step hb hp⟩

theorem LPath.mono {ch ch' : Nat → List Nat} (hsub : ∀ k, ∀ c ∈ ch k, c ∈ ch' k) {a c : Nat}
    (h : LPath ch a c) : LPath ch' a c := by
  induction h with
  | refl => exact LPath.refl _
  | step hb _ ih => exact LPath.step (hsub _ _ hb) ih

theorem Anc.mono {mx mx' : Nat → List Nat} (hsub : ∀ k, ∀ c ∈ mx k, c ∈ mx' k) {a c : Nat}
    (h : Anc mx a c) : Anc mx' a c := by
  induction h with
  | direct hm => exact Anc.direct (hsub _ _ hm)
  | step hm _ ih => exact Anc.step (hsub _ _ hm) ih

/-- `rk` witnesses that the mixin relation on the `L` nodes is acyclic with chains shorter than `L` -/
def Ranked (L : Nat) (mx : Nat → List Nat) (rk : Nat → Nat) : Prop :=
  (∀ n, n < L → rk n < L) ∧ ∀ n, ∀ m ∈ mx n, n < L ∧ m < L ∧ rk m < rk n

def Mirror (L : Nat) (mx ch : Nat → List Nat) : Prop := ∀ a, ∀ c ∈ ch a, c < L ∧ a ∈ mx c

theorem Ranked.anc {L : Nat} {mx : Nat → List Nat} {rk : Nat → Nat} (hr : Ranked L mx rk) {a n : Nat}
    (h : Anc mx a n) : a < L ∧ n < L ∧ rk a < rk n := by
  induction h with
  | direct hm => obtain ⟨h1, h2, h3⟩ := hr.2 _ _ hm; exact ⟨h2, h1, h3⟩
  | step hm _ ih =>
    obtain ⟨h1, _, h3⟩ := hr.2 _ _ hm
    exact ⟨ih.1, h1, Nat.lt_trans ih.2.2 h3⟩

theorem Ranked.irrefl {L : Nat} {mx : Nat → List Nat} {rk : Nat → Nat} (hr : Ranked L mx rk) (n : Nat) :
    ¬ Anc mx n n := fun h => Nat.lt_irrefl _ (hr.anc h).2.2

theorem Ranked.child {L : Nat} {mx ch : Nat → List Nat} {rk : Nat → Nat} (hr : Ranked L mx rk)
    (hm : Mirror L mx ch) {a c : Nat} (h : c ∈ ch a) : a < L ∧ c < L ∧ rk a < rk c := by
  obtain ⟨h1, h2⟩ := hm a c h
  obtain ⟨_, h4, h5⟩ := hr.2 _ _ h2
  exact ⟨h4, h1, h5⟩

def ancB (mx : Nat → List Nat) : Nat → Nat → Nat → Bool
  | 0, _, _ => false
  | f + 1, a, n => (mx n).any (fun m => m == a || ancB mx f a m)

theorem ancB_sound (mx : Nat → List Nat) : ∀ (f a n : Nat), ancB mx f a n = true → Anc mx a n
  | 0, _, _, h => by simp [ancB] at h
  | f + 1, a, n, h => by
    simp only [ancB, List.any_eq_true, Bool.or_eq_true, beq_iff_eq] at h
    obtain ⟨m, hm, h⟩ := h
    rcases h with rfl | h
    · exact Anc.direct hm
    · exact Anc.step hm (ancB_sound mx f a m h)

theorem ancB_complete {L : Nat} {mx : Nat → List Nat} {rk : Nat → Nat} (hr : Ranked L mx rk) {a n : Nat}
    (h : Anc mx a n) : ∀ f, rk n < f → ancB mx f a n = true := by
  induction h with
  | direct hm =>
    intro f hf
    cases f with
    | zero => omega
    | succ f =>
      simp only [ancB, List.any_eq_true, Bool.or_eq_true, beq_iff_eq]
      exact ⟨_, hm, Or.inl rfl⟩
  | step hm _ ih =>
    intro f hf
    cases f with
    | zero => omega
    | succ f =>
      simp only [ancB, List.any_eq_true, Bool.or_eq_true, beq_iff_eq]
      have := (hr.2 _ _ hm).2.2
      exact ⟨_, hm, Or.inr (ih f (by omega))⟩

theorem ancB_iff {L : Nat} {mx : Nat → List Nat} {rk : Nat → Nat} (hr : Ranked L mx rk) (a n : Nat) :
    ancB mx (L + 1) a n = true ↔ Anc mx a n := by
  constructor
  · exact ancB_sound mx _ a n
  · intro h
    have := (hr.anc h).2.1
    exact ancB_complete hr h _ (by have := hr.1 n this; omega)

def LockClosed (mx : Nat → List Nat) (lk : Nat → Bool) : Prop :=
  ∀ x, lk x = true → ∀ m ∈ mx x, lk m = true

theorem LockClosed.anc {mx : Nat → List Nat} {lk : Nat → Bool} (h : LockClosed mx lk) {a n : Nat}
    (hn : lk n = true) (ha : Anc mx a n) : lk a = true := by
  induction ha with
  | direct hm => exact h _ hn _ hm
  | step hm _ ih => exact ih (h _ hn _ hm)

/-- what `_lock_unlinked_ancestors` establishes for `c`: every mixin edge into a node with a linked path down
    to `c` is linked back or leads to a locked function -/
def Fixed (mx ch : Nat → List Nat) (lk : Nat → Bool) (c : Nat) : Prop :=
  ∀ x, LPath ch x c → ∀ m ∈ mx x, lk m = true ∨ x ∈ ch m

theorem Fixed.of_mono {mx ch : Nat → List Nat} {lk lk' : Nat → Bool} (hm : ∀ k, lk k = true → lk' k = true)
    {c : Nat} (h : Fixed mx ch lk c) : Fixed mx ch lk' c := fun x hx m hmx =>
  (h x hx m hmx).imp_left (hm _)

/-- an unlocked ancestor of a function that feeds a compiled function along linked paths is itself connected
    to it by a linked path -/
theorem anc_lpath {mx ch : Nat → List Nat} {lk : Nat → Bool} (hc : LockClosed mx lk) {c0 : Nat}
    (hfix : Fixed mx ch lk c0) {a : Nat} (ha : lk a = false) {c : Nat} (hanc : Anc mx a c) :
    LPath ch c c0 → LPath ch a c := by
  induction hanc with
  | direct hm =>
    intro hp
    rcases hfix _ hp _ hm with h | h
    · rw [ha] at h; cases h
    · exact LPath.step h (LPath.refl _)
  | @step m c hm hanc ih =>
    intro hp
    have hlm : lk m = false := by
      cases hlm : lk m
      · rfl
      · have := hc.anc hlm hanc; rw [ha] at this; cases this
    rcases hfix _ hp _ hm with h | h
    · rw [hlm] at h; cases h
    · exact (ih (LPath.step h hp)).snoc h

theorem lpath_split {ch ch2 : Nat → List Nat} {n : Nat} (hsub : ∀ k c, c ∈ ch2 k → c ∈ ch k ∨ c = n)
    {x c : Nat} (h : LPath ch2 x c) : LPath ch x c ∨ LPath ch2 n c := by
  induction h with
  | refl => exact Or.inl (LPath.refl _)
  | step hb hp ih =>
    rcases ih with ih | ih
    · rcases hsub _ _ hb with h1 | h1
      · exact Or.inl (LPath.step h1 ih)
      · subst h1; exact Or.inr hp
    · exact Or.inr ih

end Ovld

import Ovldverif.Lemmas.DepCheck
import Ovldverif.Lemmas.ListFacts
/-!
# Lemmas for C10: the three bodies of the generated dispatcher implement `rankSpec`

Under `RankOK` the emitted conjunction of a handler is `accepts` (`conj_eq`).  The lookup-table and first-match
bodies are chosen only when some slot has Literals with pairwise disjoint values in all handlers (`Disj`, by the
invariant `StratInv` of the loop over the slots, `strategy_spec`); then at most one handler accepts.
-/
set_option autoImplicit false
namespace Ovld

theorem mem_dedupFold {α : Type} [BEq α] [LawfulBEq α] (x : α) : ∀ (l acc : List α),
    x ∈ l.foldl (fun acc t => if acc.contains t then acc else acc ++ [t]) acc ↔ x ∈ acc ∨ x ∈ l := by
  intro l
  induction l with
  | nil => intro acc; simp only [List.foldl_nil, List.not_mem_nil, or_false]
  | cons a l ih =>
    intro acc
    rw [List.foldl_cons, ih]
    by_cases hc : acc.contains a = true
    · -- `a` is in `acc` already: `x = a` adds nothing
      have : a ∈ acc := List.contains_iff_mem.mp hc
      rw [if_pos hc, List.mem_cons, ← or_assoc, or_iff_left_of_imp fun e : x = a => e ▸ this]
    · rw [if_neg hc]
      simp only [List.mem_append, List.mem_cons, List.not_mem_nil, or_false, or_assoc]

theorem mem_dedupNats (x : Nat) (l : List Nat) : x ∈ dedupNats l ↔ x ∈ l := by
  unfold dedupNats
  rw [mem_dedupFold]
  simp only [List.not_mem_nil, false_or]

theorem mem_dedupTys (x : Ty) (l : List Ty) : x ∈ dedupTys l ↔ x ∈ l := by
  unfold dedupTys
  rw [mem_dedupFold]
  simp only [List.not_mem_nil, false_or]

theorem eq_of_length_le_one {α : Type} : ∀ {l : List α}, l.length ≤ 1 → ∀ a ∈ l, ∀ b ∈ l, a = b
  | [], _, _, ha, _, _ => nomatch ha
  | [_], _, _, ha, _, hb => (List.mem_singleton.mp ha).trans (List.mem_singleton.mp hb).symm
  | _ :: _ :: _, h, _, _, _, _ => absurd (Nat.le_of_succ_le_succ h) (Nat.not_succ_le_zero _)

theorem length_le_one_of_nodup {α : Type} :
    ∀ {l : List α}, l.Nodup → (∀ a ∈ l, ∀ b ∈ l, a = b) → l.length ≤ 1
  | [], _, _ => Nat.zero_le _
  | [_], _, _ => Nat.le_refl _
  | a :: b :: _, hnd, hall =>
    absurd (hall a List.mem_cons_self b (List.mem_cons_of_mem _ List.mem_cons_self) ▸ List.mem_cons_self)
      (List.nodup_cons.mp hnd).1

def dictIns (d : List (Nat × Nat)) (pairs : List (Nat × Nat)) : List (Nat × Nat) :=
  pairs.foldl (fun d p => dictSet d p.1 p.2) d

theorem dictSet_cases (d : List (Nat × Nat)) (k v : Nat) :
    (dictSet d k v).length = d.length ∨ (dictSet d k v = d ++ [(k, v)] ∧ k ∉ d.map (·.1)) := by
  fun_cases dictSet d k v with
  | case1 hc => exact Or.inl (List.length_map _)
  | case2 hc =>
    refine Or.inr ⟨rfl, fun hm => hc ?_⟩
    obtain ⟨e, he, hek⟩ := List.mem_map.mp hm
    exact List.any_eq_true.mpr ⟨e, he, beq_iff_eq.mpr hek⟩

theorem dictIns_length_le : ∀ (pairs d : List (Nat × Nat)), (dictIns d pairs).length ≤ d.length + pairs.length
  | [], _ => Nat.le_refl _
  | p :: ps, d => by
    have h1 := dictIns_length_le ps (dictSet d p.1 p.2)
    have h2 : (dictSet d p.1 p.2).length ≤ d.length + 1 := by
      rcases dictSet_cases d p.1 p.2 with h | ⟨h, _⟩ <;> rw [h]
      · exact Nat.le_succ _
      · rw [List.length_append]; exact Nat.le_refl _
    show (dictIns (dictSet d p.1 p.2) ps).length ≤ d.length + (ps.length + 1)
    omega

theorem dictIns_length_eq : ∀ (pairs d : List (Nat × Nat)), (d.map (·.1)).Nodup →
    (dictIns d pairs).length = d.length + pairs.length →
    dictIns d pairs = d ++ pairs ∧ ((d ++ pairs).map (·.1)).Nodup
  | [], d, hd, _ => by rw [List.append_nil]; exact ⟨rfl, hd⟩
  | (pk, pv) :: ps, d, hd, hlen => by
    have h1 := dictIns_length_le ps (dictSet d pk pv)
    change (dictIns (dictSet d pk pv) ps).length = d.length + (ps.length + 1) at hlen
    show dictIns (dictSet d pk pv) ps = _ ∧ _
    rcases dictSet_cases d pk pv with h | ⟨e1, e2⟩
    · omega
    · rw [e1] at hlen ⊢
      have hd' : ((d ++ [(pk, pv)]).map (·.1)).Nodup := by
        rw [List.map_append, List.nodup_append]
        exact ⟨hd, List.pairwise_singleton _ _,
          fun a ha b hb e => e2 (by cases List.mem_singleton.mp hb; cases e; exact ha)⟩
      have := dictIns_length_eq ps (d ++ [(pk, pv)]) hd'
        (by rw [hlen, List.length_append, List.length_singleton]; omega)
      rwa [List.append_assoc] at this

section
variable {W : DWorld} {k : List Slot} {hs : List DHandler} {args : List (Slot × DVal)}

theorem conjGo_eq (ok : RankOK W k hs args) {h : DHandler} (hh : h ∈ hs) :
    ∀ ss : List Slot, (∀ s ∈ ss, s ∈ k) →
      conjGo W args h (ss.filter (fun s => (dTyAt h s).isDep)) = Tri.ofBool (accepts W ss args h) := by
  intro ss
  induction ss with
  | nil => intro _; rfl
  | cons s r ih =>
    intro hsub
    have hsk : s ∈ k := hsub s (List.mem_cons_self)
    have ih' := ih (fun s' hs' => hsub s' (List.mem_cons_of_mem _ hs'))
    obtain ⟨v, hv⟩ := ok.present s hsk
    have hacc : accepts W (s :: r) args h = ((isinstanceOf W (dTyAt h s) v == .yes) && accepts W r args h) := by
      simp only [accepts, List.all_cons, hv]
    rw [hacc]
    cases hdep : (dTyAt h s).isDep
    · -- no condition is emitted for this slot; the type-level stage has accepted the value
      rw [List.filter_cons_of_neg (by rw [hdep]; exact Bool.false_ne_true), ih', ok.static h hh s hsk hdep v hv]
      rfl
    · obtain ⟨h1, h2⟩ := ok.check h hh s hsk hdep v hv
      rw [List.filter_cons_of_pos (p := fun s => (dTyAt h s).isDep) (a := s) hdep, ← h1]
      simp only [conjGo, hv]
      cases hg : genCheck W (dTyAt h s) v
      · exact ih'
      · rfl
      · exact absurd hg h2

theorem conj_eq (ok : RankOK W k hs args) {h : DHandler} (hh : h ∈ hs) :
    conj W args k h = Tri.ofBool (accepts W k args h) :=
  conjGo_eq ok hh k (fun _ h => h)

theorem conjGo_yes {h : DHandler} {ss : List Slot} (hc : conjGo W args h ss = .yes) :
    ∀ s ∈ ss, ∃ v, argAt args s = some v ∧ genCheck W (dTyAt h s) v = .yes := by
  fun_induction conjGo W args h ss with
  | case1 => nofun
  | case2 a r ha => cases hc
  | case3 a r v ha hg ih =>
    intro s hs
    rcases List.mem_cons.mp hs with rfl | h'
    · exact ⟨v, ha, hg⟩
    · exact ih hc s h'
  | case4 a r v ha hg => exact absurd hc hg

/-- `get_keys()` of a handler's Literal at slot `s` -/
def keysOf (s : Slot) (h : DHandler) : List Nat :=
  match dTyAt h s with
  | .lit ks _ => dedupNats ks
  | _ => []

/-- the (key, handler) pairs of slot `s`, in insertion order -/
def pairsAt (hs : List DHandler) (s : Slot) : List (Nat × Nat) :=
  hs.flatMap (fun h => (keysOf s h).map (fun k => (k, h.1)))

/-- the `keyed` of `stratSlots` -/
def tableAt (hs : List DHandler) (s : Slot) : List (Nat × Nat) :=
  hs.foldl (fun d h => (keysOf s h).foldl (fun d k => dictSet d k h.1) d) []

/-- the `total` of `stratSlots` -/
def totalAt (hs : List DHandler) (s : Slot) : Nat :=
  (hs.map (fun h => (keysOf s h).length)).foldl (· + ·) 0

/-- one iteration of the loop of `stratSlots`, the `let`s named; `stratSlots_cons` breaks if the two get out of step -/
def stratStep (W : DWorld) (hs : List DHandler) (s : Slot) (st : StratState) : StratState :=
  if (dedupTys (hs.map (fun h => dTyAt h s))).length == hs.length then
    match dedupNats ((dedupTys (hs.map (fun h => dTyAt h s))).map (pyKind W)) with
    | [kind] =>
      if kind == 3 then
        if (tableAt hs s).length != totalAt hs s then
          { st with exclusive := false, keySlot := none, keyed := [] }
        else if (dedupTys (hs.map (fun h => dTyAt h s))).length < 4 then
          { st with exclusive := true, keySlot := none, keyed := tableAt hs s }
        else { st with keySlot := some s, keyed := tableAt hs s }
      else { st with exclusive := false }
    | _ => st
  else st

theorem stratSlots_cons (W : DWorld) (hs : List DHandler) (s : Slot) (rest : List Slot) (st : StratState) :
    stratSlots W hs (s :: rest) st = stratSlots W hs rest (stratStep W hs s st) := rfl

theorem tableAt_eq (hs : List DHandler) (s : Slot) : tableAt hs s = dictIns [] (pairsAt hs s) := by
  unfold tableAt dictIns pairsAt
  rw [List.foldl_flatMap]
  congr 1
  funext d h
  rw [List.foldl_map]

theorem totalAt_eq (hs : List DHandler) (s : Slot) : totalAt hs s = (pairsAt hs s).length := by
  unfold totalAt pairsAt
  rw [List.length_flatMap, List.sum_eq_foldl]
  simp only [List.length_map]

def Disj (hs : List DHandler) (s : Slot) : Prop :=
  (∀ h ∈ hs, ∃ ks b, dTyAt h s = .lit ks b) ∧ ((pairsAt hs s).map (·.1)).Nodup

theorem pyKind_eq_three {t : Ty} (h : pyKind W t = 3) : ∃ ks b, t = .lit ks b := by
  cases t <;> simp only [pyKind] at h <;> try omega
  exact ⟨_, _, rfl⟩

/-- one kind of type object at the slot, and that kind is `Equals`: every handler declares a Literal there -/
theorem lit_of_kinds {s : Slot} (hk : dedupNats ((dedupTys (hs.map (fun h => dTyAt h s))).map (pyKind W)) = [3]) :
    ∀ h ∈ hs, ∃ ks b, dTyAt h s = .lit ks b := fun h hh => by
  apply pyKind_eq_three (W := W)
  have h1 : dTyAt h s ∈ dedupTys (hs.map (fun h => dTyAt h s)) := (mem_dedupTys _ _).mpr (List.mem_map_of_mem hh)
  have h2 := (mem_dedupNats _ _).mpr (List.mem_map_of_mem (f := pyKind W) h1)
  rw [hk] at h2
  exact List.mem_singleton.mp h2

/-- `len(keyed) == sum(map(len, all_keys))`: no key is shared, and the table is the list of the pairs -/
theorem tableAt_of_length {s : Slot} (h : (tableAt hs s).length = totalAt hs s) :
    tableAt hs s = pairsAt hs s ∧ ((pairsAt hs s).map (·.1)).Nodup := by
  rw [tableAt_eq, totalAt_eq] at h
  rw [tableAt_eq]
  simpa only [List.nil_append] using dictIns_length_eq (pairsAt hs s) [] List.nodup_nil (by simpa using h)

structure StratInv (hs : List DHandler) (k : List Slot) (st : StratState) : Prop where
  excl : st.exclusive = true → ∃ s ∈ k, Disj hs s
  key : ∀ s, st.keySlot = some s → s ∈ k ∧ Disj hs s ∧ st.keyed = pairsAt hs s

theorem stratStep_inv (W : DWorld) {s : Slot} (hsk : s ∈ k) {st : StratState} (inv : StratInv hs k st) :
    StratInv hs k (stratStep W hs s st) := by
  -- case1: a key shared by two handlers; case2: fewer than four Literals; case3: the keyed slot; case4: one kind of
  -- type object, not `Equals`; case5: several kinds; case6: a type shared by two handlers
  fun_cases stratStep W hs s st with
  | case1 => exact ⟨nofun, fun _ => nofun⟩
  | case2 _ kind hk h3 hlen =>
    cases eq_of_beq h3
    obtain ⟨_, hnd⟩ := tableAt_of_length (by simpa using hlen)
    exact ⟨fun _ => ⟨s, hsk, lit_of_kinds hk, hnd⟩, fun _ => nofun⟩
  | case3 _ kind hk h3 hlen =>
    cases eq_of_beq h3
    obtain ⟨etab, hnd⟩ := tableAt_of_length (by simpa using hlen)
    exact ⟨inv.excl, fun s' h => by cases h; exact ⟨hsk, ⟨lit_of_kinds hk, hnd⟩, etab⟩⟩
  | case4 => exact ⟨nofun, inv.key⟩
  | case5 | case6 => exact inv

theorem stratSlots_inv (W : DWorld) :
    ∀ (ss : List Slot) {st : StratState}, (∀ s ∈ ss, s ∈ k) → StratInv hs k st →
      StratInv hs k (stratSlots W hs ss st)
  | [], _, _, inv => inv
  | s :: rest, _, hsub, inv => by
    rw [stratSlots_cons]
    exact stratSlots_inv W rest (fun s' h' => hsub s' (List.mem_cons_of_mem _ h'))
      (stratStep_inv W (hsub s List.mem_cons_self) inv)

/-- the lookup table is emitted only for a slot with pairwise disjoint Literals, when no handler has a second
    condition; first match for a single handler, or with some such slot -/
theorem strategy_spec (W : DWorld) (k : List Slot) (hs : List DHandler) :
    match strategy W k hs with
    | .keyed s table =>
      (∀ h ∈ hs, (relevantSlots k h).length ≤ 1) ∧ s ∈ k ∧ Disj hs s ∧ table = pairsAt hs s
    | .firstMatch => hs.length = 1 ∨ ∃ s ∈ k, Disj hs s
    | .counting => True := by
  have inv : StratInv hs k (stratSlots W hs k {}) := stratSlots_inv W k (fun _ h => h) ⟨nofun, fun _ => nofun⟩
  fun_cases strategy W k hs with
  | case1 st multi keySlot s hks =>
    by_cases hm : hs.any (fun h => decide ((relevantSlots k h).length > 1)) = true
    · rw [show keySlot = none from if_pos hm] at hks; cases hks
    · rw [show keySlot = st.keySlot from if_neg hm] at hks
      exact ⟨fun h hh => Nat.le_of_not_lt fun hgt => hm (List.any_eq_true.mpr ⟨h, hh, decide_eq_true hgt⟩),
        inv.key s hks⟩
  | case2 st multi keySlot exclusive _ hex =>
    by_cases h1 : hs.length = 1
    · exact Or.inl h1
    · rw [show exclusive = st.exclusive from if_neg (by simpa using h1)] at hex
      exact Or.inr (inv.excl hex)
  | case3 => trivial

theorem mem_keysOf {s : Slot} {h : DHandler} {x : Nat} :
    x ∈ keysOf s h ↔ ∃ ks b, dTyAt h s = .lit ks b ∧ x ∈ ks := by
  unfold keysOf
  split
  · rename_i ks b e
    rw [mem_dedupNats]
    exact ⟨fun hx => ⟨ks, b, e, hx⟩, fun ⟨_, _, e', hx⟩ => by cases e.symm.trans e'; exact hx⟩
  · rename_i hn
    exact ⟨fun hx => (by cases hx), fun ⟨ks, b, e, _⟩ => (hn ks b e).elim⟩

theorem mem_pairsAt (hs : List DHandler) (s : Slot) (e : Nat × Nat) :
    e ∈ pairsAt hs s ↔ ∃ h ∈ hs, e.1 ∈ keysOf s h ∧ e.2 = h.1 := by
  unfold pairsAt
  rw [List.mem_flatMap]
  constructor
  · rintro ⟨h, hh, he⟩
    obtain ⟨x, hx, rfl⟩ := List.mem_map.mp he
    exact ⟨h, hh, hx, rfl⟩
  · rintro ⟨h, hh, h1, h2⟩
    refine ⟨h, hh, List.mem_map.mpr ⟨e.1, h1, ?_⟩⟩
    rw [← h2]

theorem key_of_accepts {s : Slot} (hsk : s ∈ k) (hdj : Disj hs s) {v : DVal} (hv : argAt args s = some v)
    {h : DHandler} (hh : h ∈ hs) (ha : accepts W k args h = true) : v.eq ∈ keysOf s h := by
  have := List.all_eq_true.mp ha s hsk
  rw [hv] at this
  obtain ⟨ks, b, ht⟩ := hdj.1 h hh
  rw [ht, beq_iff_eq, isinstanceOf_lit, Tri.andThen_eq_yes, Tri.ofBool_eq_yes] at this
  exact mem_keysOf.mpr ⟨ks, b, ht, List.contains_iff_mem.mp this.2⟩

/-- the converse when the handler has no second condition (the situation of the lookup-table body) -/
theorem accepts_of_key (ok : RankOK W k hs args) {h : DHandler} (hh : h ∈ hs)
    (hrel : (relevantSlots k h).length ≤ 1) {s : Slot} (hsk : s ∈ k) {v : DVal} (hv : argAt args s = some v)
    (hkey : v.eq ∈ keysOf s h) :
    accepts W k args h = true := by
  obtain ⟨ks, b, ht, hin⟩ := mem_keysOf.mp hkey
  have hdep : (dTyAt h s).isDep = true := by rw [ht]; rfl
  refine List.all_eq_true.mpr fun s' hs' => ?_
  obtain ⟨v', hv'⟩ := ok.present s' hs'
  rw [hv']
  show (isinstanceOf W (dTyAt h s') v' == Tri.yes) = true
  cases hdep' : (dTyAt h s').isDep
  · rw [ok.static h hh s' hs' hdep' v' hv']; rfl
  · -- the one slot with a condition is `s`
    cases eq_of_length_le_one hrel s' (List.mem_filter.mpr ⟨hs', hdep'⟩) s (List.mem_filter.mpr ⟨hsk, hdep⟩)
    cases hv.symm.trans hv'
    rw [← (ok.check h hh s hsk hdep v hv).1, ht, genCheck_lit, List.contains_iff_mem.mpr hin]
    rfl

theorem disj_unique {s : Slot} (hdj : Disj hs s) (ids : (hs.map (·.1)).Nodup) {x : Nat}
    {h1 : DHandler} (hh1 : h1 ∈ hs) {h2 : DHandler} (hh2 : h2 ∈ hs)
    (hx1 : x ∈ keysOf s h1) (hx2 : x ∈ keysOf s h2) : h1 = h2 := by
  have m1 : (x, h1.1) ∈ pairsAt hs s := (mem_pairsAt hs s _).mpr ⟨h1, hh1, hx1, rfl⟩
  have m2 : (x, h2.1) ∈ pairsAt hs s := (mem_pairsAt hs s _).mpr ⟨h2, hh2, hx2, rfl⟩
  have := eq_of_nodup_map (·.1) hdj.2 m1 m2 rfl
  exact eq_of_nodup_map (·.1) ids hh1 hh2 (congrArg (·.2) this)

theorem accepts_le_one (ok : RankOK W k hs args) {s : Slot} (hsk : s ∈ k) (hdj : Disj hs s) :
    (hs.filter (accepts W k args)).length ≤ 1 := by
  obtain ⟨v, hv⟩ := ok.present s hsk
  refine length_le_one_of_nodup ((nodup_of_map_nodup _ hs ok.ids).sublist List.filter_sublist) fun a ha b hb => ?_
  obtain ⟨ha1, ha2⟩ := List.mem_filter.mp ha
  obtain ⟨hb1, hb2⟩ := List.mem_filter.mp hb
  exact disj_unique hdj ok.ids ha1 hb1 (key_of_accepts hsk hdj hv ha1 ha2) (key_of_accepts hsk hdj hv hb1 hb2)

/-- what the first-match body computes; a device of the proofs: it is `rankSpec` when at most one handler accepts -/
def firstSpec (W : DWorld) (k : List Slot) (args : List (Slot × DVal)) (l : List DHandler) : DRes :=
  match l.filter (accepts W k args) with
  | [] => .fallthrough
  | h :: _ => .handler h.1

theorem dispatch_go_eq : ∀ (l : List DHandler),
    (∀ h ∈ l, conj W args k h = Tri.ofBool (accepts W k args h)) →
    dispatch.go W k args l = firstSpec W k args l := by
  intro l
  induction l with
  | nil => intro _; rfl
  | cons h r ih =>
    intro hc
    have ih' := ih (fun h' hh' => hc h' (List.mem_cons_of_mem _ hh'))
    unfold dispatch.go firstSpec
    rw [hc h List.mem_cons_self]
    cases ha : accepts W k args h
    · rw [List.filter_cons_of_neg (by rw [ha]; exact Bool.false_ne_true)]
      exact ih'
    · rw [List.filter_cons_of_pos ha]
      rfl

theorem rankSpec_of_le_one (h1 : (hs.filter (accepts W k args)).length ≤ 1) :
    rankSpec W k hs args = firstSpec W k args hs := by
  unfold rankSpec firstSpec
  match hs.filter (accepts W k args), h1 with
  | [], _ | [_], _ => rfl
  | _ :: _ :: _, h => exact absurd (Nat.le_of_succ_le_succ h) (Nat.not_succ_le_zero _)

theorem dispatch_counting (hst : strategy W k hs = .counting) (ok : RankOK W k hs args) :
    dispatch W k hs args = rankSpec W k hs args := by
  have e1 : ∀ h ∈ hs, (conj W args k h == .raises) = false := fun h hh => by
    rw [conj_eq ok hh]; cases accepts W k args h <;> rfl
  have e2 : ∀ h ∈ hs, (conj W args k h == .yes) = accepts W k args h := fun h hh => by
    rw [conj_eq ok hh]; cases accepts W k args h <;> rfl
  unfold dispatch
  rw [hst]
  simp only [List.any_map, List.filter_map, Function.comp_def]
  rw [List.any_eq_false.mpr fun h hh => by rw [e1 h hh]; exact Bool.false_ne_true, List.filter_congr e2]
  unfold rankSpec
  match hs.filter (accepts W k args) with
  | [] | [_] | _ :: _ :: _ => rfl

theorem dispatch_firstMatch (hst : strategy W k hs = .firstMatch) (ok : RankOK W k hs args) :
    dispatch W k hs args = rankSpec W k hs args := by
  have hle : (hs.filter (accepts W k args)).length ≤ 1 := by
    have hspec := strategy_spec W k hs
    rw [hst] at hspec
    rcases hspec with h1 | ⟨s, hsk, hdj⟩
    · exact Nat.le_trans (List.length_filter_le _ _) (Nat.le_of_eq h1)
    · exact accepts_le_one ok hsk hdj
  unfold dispatch
  rw [hst, rankSpec_of_le_one hle]
  exact dispatch_go_eq hs fun h hh => conj_eq ok hh

theorem dispatch_keyed {s : Slot} {table : List (Nat × Nat)} (hst : strategy W k hs = .keyed s table)
    (ok : RankOK W k hs args) : dispatch W k hs args = rankSpec W k hs args := by
  have hspec := strategy_spec W k hs
  rw [hst] at hspec
  obtain ⟨hrel, hsk, hdj, rfl⟩ := hspec
  obtain ⟨v, hv⟩ := ok.present s hsk
  have hpw : (pairsAt hs s).Pairwise (fun x y => x.1 ≠ y.1) := List.pairwise_map.mp hdj.2
  unfold dispatch rankSpec
  rw [hst]
  simp only [hv]
  -- the table has a pair for the value exactly when some handler accepts, and then it is that handler's pair
  match hfl : hs.filter (accepts W k args), accepts_le_one ok hsk hdj with
  | [], _ =>
    have hnone : (pairsAt hs s).find? (fun e => e.1 == v.eq) = none := by
      refine List.find?_eq_none.mpr fun e he hek => ?_
      obtain ⟨h, hh, hk, _⟩ := (mem_pairsAt hs s e).mp he
      rw [beq_iff_eq.mp hek] at hk
      have : h ∈ hs.filter (accepts W k args) :=
        List.mem_filter.mpr ⟨hh, accepts_of_key ok hh (hrel h hh) hsk hv hk⟩
      rw [hfl] at this
      cases this
    rw [hnone]
    split <;> rfl
  | [h], _ =>
    obtain ⟨hh, ha⟩ := List.mem_filter.mp (hfl ▸ List.mem_cons_self)
    have hk := key_of_accepts hsk hdj hv hh ha
    -- the keys of a Literal table are hashable
    obtain ⟨ks, b, ht, hin⟩ := mem_keysOf.mp hk
    rw [if_neg fun hu => ok.hashable s hsk v hv hu h hh ks b ht hin,
      (find?_fst_iff hpw v.eq (v.eq, h.1)).mpr ⟨(mem_pairsAt hs s _).mpr ⟨h, hh, hk, rfl⟩, rfl⟩]

end

theorem argAt_mem {args : List (Slot × DVal)} {s : Slot} {v : DVal} (h : argAt args s = some v) :
    ∃ a ∈ args, a.2 = v := by
  unfold argAt at h
  cases hf : args.find? (fun p => p.1 == s) with
  | none => rw [hf] at h; cases h
  | some a =>
    rw [hf] at h
    exact ⟨a, List.mem_of_find?_eq_some hf, by simpa using h⟩

/-- all arguments are hashable -/
theorem hashable_of_args (k : List Slot) (hs : List DHandler) (args : List (Slot × DVal))
    (hh : ∀ a ∈ args, a.2.eq < unhashableFrom) :
    ∀ s ∈ k, ∀ v, argAt args s = some v → unhashableFrom ≤ v.eq →
      ∀ h ∈ hs, ∀ ks b, dTyAt h s = .lit ks b → v.eq ∉ ks := by
  intro s _ v hv hu
  obtain ⟨a, ha, hav⟩ := argAt_mem hv
  have := hh a ha
  rw [hav] at this
  omega

/-- the keys of the Literals of the rank are hashable, whatever the arguments -/
theorem hashable_of_keys (k : List Slot) (hs : List DHandler) (args : List (Slot × DVal))
    (hh : ∀ h ∈ hs, ∀ s ∈ k, ∀ ks b, dTyAt h s = .lit ks b → ∀ x ∈ ks, x < unhashableFrom) :
    ∀ s ∈ k, ∀ v, argAt args s = some v → unhashableFrom ≤ v.eq →
      ∀ h ∈ hs, ∀ ks b, dTyAt h s = .lit ks b → v.eq ∉ ks := by
  intro s hs' v _ hu h hmem ks b ht hin
  have := hh h hmem s hs' ks b ht v.eq hin
  omega

end Ovld

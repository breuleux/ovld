import Ovldverif.Lemmas.GraphBasic
import Ovldverif.Lemmas.GraphRel
/-!
# Specifications of `lock`, `lockUnlinked`, `compile` and `update` on ranked (acyclic) graphs
-/
set_option autoImplicit false
namespace Ovld

theorem Fixed.of_shape {g g' : Graph} (h : Shape g g') (hm : ∀ k, g.lk k = true → g'.lk k = true) {c : Nat}
    (hf : Fixed g.mx g.ch g.lk c) : Fixed g'.mx g'.ch g'.lk c := by
  rw [h.mx, h.ch]; exact hf.of_mono hm

theorem Ranked.of_shape {g g' : Graph} (h : Shape g g') {rk : Nat → Nat} (hr : Ranked g.len g.mx rk) :
    Ranked g'.len g'.mx rk := by rw [h.len, h.mx]; exact hr

theorem Mirror.of_shape {g g' : Graph} (h : Shape g g') (hr : Mirror g.len g.mx g.ch) :
    Mirror g'.len g'.mx g'.ch := by rw [h.len, h.mx, h.ch]; exact hr

structure Locks (g g' : Graph) : Prop where
  frame : Frame g g'
  new : ∀ x, g'.lk x = true → g.lk x = true ∨ ∀ m ∈ g.mx x, g'.lk m = true

theorem Locks.refl (g : Graph) : Locks g g := ⟨Frame.refl g, fun _ h => Or.inl h⟩

theorem Locks.trans {a b c : Graph} (h1 : Locks a b) (h2 : Locks b c) : Locks a c :=
  ⟨h1.frame.trans h2.frame, fun x hx => (h2.new x hx).elim
    (fun h => (h1.new x h).imp_right fun h' m hm => h2.frame.mono m (h' m hm))
    (fun h => Or.inr (h1.frame.shape.mx ▸ h))⟩

theorem Locks.closed {g g' : Graph} (h : Locks g g') (hc : LockClosed g.mx g.lk) : LockClosed g'.mx g'.lk := by
  rw [h.frame.shape.mx]
  intro x hx m hm
  rcases h.new x hx with h1 | h1
  · exact h.frame.mono m (hc x h1 m hm)
  · exact h1 m hm

theorem Graph.lock_spec {rk : Nat → Nat} (f : Nat) (g : Graph) (n : Nat) (hr : Ranked g.len g.mx rk) (hn : n < g.len)
    (hf : rk n < f) : Locks g (Graph.lock f g n) ∧ (Graph.lock f g n).lk n = true := by
  fun_induction Graph.lock f g n with
  | case1 => omega
  | case2 f g n g1 ih =>
    have h1 : Frame g g1 := Graph.set_locked_frame g n
    have hn1 : g1.lk n = true := congrArg Node.locked (Graph.get_set_self g n _ hn)
    have hx1 : ∀ x, g1.lk x = true → g.lk x = true ∨ x = n := fun x hx => by
      by_cases hxn : x = n
      · exact Or.inr hxn
      · exact Or.inl ((congrArg Node.locked (Graph.get_set_ne g n _ x hxn)).symm.trans hx)
    rw [show (g1.get n).mixins = g.mx n from congrFun h1.shape.mx n]
    clear_value g1   -- from here on `g1` is known through `h1`, `hn1`, `hx1` only
    obtain ⟨hL, hall⟩ := foldl_each (R := Locks) (hr := Locks.refl) (ht := fun _ _ _ => Locks.trans)
      (I := fun a => Shape g a) (hI := fun _ _ h hs => hs.trans h.frame.shape)
      (P := fun m a => a.lk m = true) (hP := fun m _ _ h => h.frame.mono m)
      (hs := fun a ha m hm => ih a m (Ranked.of_shape ha hr)
        (by rw [ha.len]; exact (hr.2 n m hm).2.1) (by have := (hr.2 n m hm).2.2; omega))
      (fun a m => Graph.lock f a m) (g.mx n) g1 h1.shape
    refine ⟨⟨h1.trans hL.frame, fun x hx => ?_⟩, hL.frame.mono n hn1⟩
    rcases hL.new x hx with h2 | h2
    · exact (hx1 x h2).imp_right fun (hxn : x = n) => hxn ▸ hall
    · exact Or.inr (h1.shape.mx ▸ h2)

theorem Graph.lockUnlinked_spec {rk : Nat → Nat} (f : Nat) (g : Graph) (n : Nat) (hr : Ranked g.len g.mx rk)
    (hmi : Mirror g.len g.mx g.ch) (hn : n < g.len) (hf : rk n < f) :
    Locks g (Graph.lockUnlinked f g n) ∧
    Fixed (Graph.lockUnlinked f g n).mx (Graph.lockUnlinked f g n).ch (Graph.lockUnlinked f g n).lk n := by
  fun_induction Graph.lockUnlinked f g n with
  | case1 => omega
  | case2 f g n ih =>
    obtain ⟨hL, hall⟩ := foldl_each (R := Locks) (hr := Locks.refl) (ht := fun _ _ _ => Locks.trans)
      (I := fun a => Shape g a) (hI := fun _ _ h hs => hs.trans h.frame.shape)
      -- what the round of `_lock_unlinked_ancestors n` for the mixin `m` leaves behind in `a`: a linked mixin has been
      -- treated like `n` itself, an unlinked one is locked
      (P := fun m a => (n ∈ g.ch m → Fixed a.mx a.ch a.lk m) ∧ (n ∉ g.ch m → a.lk m = true))
      (hP := fun m _ _ h hp => ⟨fun hc => (hp.1 hc).of_shape h.frame.shape h.frame.mono, fun hc => h.frame.mono m (hp.2 hc)⟩)
      (hs := fun a ha m hm => by
        have hm' := hr.2 n m hm
        have hlt : m < a.len := by rw [ha.len]; exact hm'.2.1
        have hch : (a.get m).children = g.ch m := congrFun ha.ch m
        by_cases hc : n ∈ g.ch m
        · rw [if_pos (by rw [hch]; simpa using hc)]
          obtain ⟨h1, h2⟩ := ih a m (Ranked.of_shape ha hr) (Mirror.of_shape ha hmi) hlt (by omega)
          exact ⟨h1, fun _ => h2, fun h => absurd hc h⟩
        · rw [if_neg (by rw [hch]; simpa using hc)]
          obtain ⟨h1, h2⟩ := Graph.lock_spec f a m (Ranked.of_shape ha hr) hlt (by omega)
          exact ⟨h1, fun h => absurd h hc, fun _ => h2⟩)
      (fun a m => if (a.get m).children.contains n then Graph.lockUnlinked f a m else Graph.lock f a m)
      (g.get n).mixins g (Shape.refl g)
    generalize List.foldl _ g (g.get n).mixins = g' at hL hall ⊢
    refine ⟨hL, ?_⟩
    have hs := hL.frame.shape
    rw [hs.mx, hs.ch]
    -- a linked path into `n` is empty or ends in a child edge `b → n`; by `Mirror` that `b` is a linked mixin of `n`,
    -- so its `Fixed` applies
    intro x hx m hm
    rcases hx.tail_cases with rfl | ⟨b, hb, hxb⟩
    · by_cases hc : x ∈ g.ch m
      · exact Or.inr hc
      · exact Or.inl ((hall m hm).2 hc)
    · have := (hall b (hmi b n hb).2).1 hb
      rw [hs.mx, hs.ch] at this
      exact this x hxb m hm

structure CompRes (g g' : Graph) (n : Nat) : Prop where
  shape : Shape g g'
  cp_n : g'.cp n = true
  cp_ne : ∀ k, k ≠ n → g'.cp k = g.cp k
  mono : ∀ k, g.lk k = true → g'.lk k = true
  closed : LockClosed g.mx g.lk → LockClosed g'.mx g'.lk
  bt_n : g'.bt n = g.defns g.depth n
  bt_ne : ∀ k, k ≠ n → g'.bt k = g.bt k
  fixed : Fixed g'.mx g'.ch g'.lk n

theorem Graph.compile_spec {rk : Nat → Nat} {g : Graph} {n : Nat} (hr : Ranked g.len g.mx rk)
    (hmi : Mirror g.len g.mx g.ch) (hn : n < g.len) {g' : Graph} (h : g.compile n = (g', none)) :
    CompRes g g' n := by
  have hfr := Graph.lockUnlinked_frame g.depth g n
  have hsp := Graph.lockUnlinked_spec g.depth g n hr hmi hn (by have := hr.1 n hn; rw [Graph.depth_eq]; omega)
  rw [Graph.compile_eq] at h
  split at h
  · cases h
  · next ana _ =>
    obtain rfl := (Prod.mk.inj h).1
    generalize Graph.lockUnlinked g.depth g n = g1 at hfr hsp ⊢
    generalize hT : (⟨true, g.defns g.depth n, _, ana⟩ : Tab) = t
    have hs := Graph.setTab_shape g1 n t
    have hlk := Graph.setTab_lk g1 n t
    have htb := Graph.setTab_tb g1 n t
    generalize g1.setTab n t = g' at hs hlk htb ⊢
    have htn := (htb n).trans (if_pos ⟨rfl, show n < g1.len by rw [hfr.shape.len]; exact hn⟩)
    have htk : ∀ k, k ≠ n → g'.tb k = g.tb k := fun k hk =>
      (htb k).trans ((if_neg fun hh => hk hh.1).trans (congrFun hfr.tb k))
    subst hT
    refine ⟨hfr.shape.trans hs, congrArg Tab.compiled htn, fun k hk => congrArg Tab.compiled (htk k hk), ?_, ?_,
      congrArg Tab.built htn, fun k hk => congrArg Tab.built (htk k hk), ?_⟩
    · intro k hk; rw [hlk]; exact hfr.mono k hk
    · intro hc; rw [hs.mx, hlk]; exact hsp.1.closed hc
    · rw [hs.mx, hs.ch, hlk]; exact hsp.2

/-- one or several recompilations towards the target definitions `D` -/
structure Upd (D : Nat → List (Def × Int)) (g g' : Graph) : Prop where
  shape : Shape g g'
  cp : g'.cp = g.cp
  mono : ∀ k, g.lk k = true → g'.lk k = true
  closed : LockClosed g.mx g.lk → LockClosed g'.mx g'.lk
  bt : ∀ k, g'.bt k = g.bt k ∨ g'.bt k = D k

theorem Upd.refl (D : Nat → List (Def × Int)) (g : Graph) : Upd D g g :=
  ⟨Shape.refl g, rfl, fun _ h => h, fun h => h, fun _ => Or.inl rfl⟩

theorem Upd.trans {D : Nat → List (Def × Int)} {a b c : Graph} (h1 : Upd D a b) (h2 : Upd D b c) : Upd D a c :=
  ⟨h1.shape.trans h2.shape, h2.cp.trans h1.cp, fun k h => h2.mono k (h1.mono k h),
   fun h => h2.closed (h1.closed h), fun k => by
    rcases h2.bt k with h | h
    · rw [h]; exact h1.bt k
    · exact Or.inr h⟩

def Done (D : Nat → List (Def × Int)) (g : Graph) (c : Nat) : Prop :=
  g.bt c = D c ∧ Fixed g.mx g.ch g.lk c

theorem Done.upd {D : Nat → List (Def × Int)} {g g' : Graph} (h : Upd D g g') {c : Nat} (hd : Done D g c) :
    Done D g' c := by
  refine ⟨?_, hd.2.of_shape h.shape h.mono⟩
  rcases h.bt c with h1 | h1
  · rw [h1]; exact hd.1
  · exact h1

theorem CompRes.upd {D : Nat → List (Def × Int)} {g g' : Graph} {n : Nat} (h : CompRes g g' n) (hc : g.cp n = true)
    (hD : ∀ k, g.defns g.depth k = D k) : Upd D g g' := by
  refine ⟨h.shape, ?_, h.mono, h.closed, ?_⟩
  · funext k
    by_cases hk : k = n
    · subst hk; rw [h.cp_n, hc]
    · exact h.cp_ne k hk
  · intro k
    by_cases hk : k = n
    · subst hk; exact Or.inr (h.bt_n.trans (hD k))
    · exact Or.inl (h.bt_ne k hk)

theorem Graph.recompile_spec {D : Nat → List (Def × Int)} {rk : Nat → Nat} {g : Graph} {n : Nat}
    (hr : Ranked g.len g.mx rk) (hmi : Mirror g.len g.mx g.ch) (hD : ∀ k, g.defns g.depth k = D k) (hn : n < g.len)
    (g1 : Graph) (h : g.compileIf (g.get n).compiled n = (g1, none)) :
    Upd D g g1 ∧ (g.cp n = true → Done D g1 n) := by
  unfold Graph.compileIf at h
  split at h
  · next hc =>
    have hres := Graph.compile_spec hr hmi hn h
    exact ⟨hres.upd hc hD, fun _ => ⟨hres.bt_n.trans (hD n), hres.fixed⟩⟩
  · next hc =>
    obtain rfl := (Prod.mk.inj h).1
    exact ⟨Upd.refl _ g, fun h' => absurd h' hc⟩

/-- the loop over `children` in `_update()`; `ih` is `update_spec` at the fuel `f` of the recursive calls -/
theorem Graph.update_fold (D : Nat → List (Def × Int)) (rk : Nat → Nat) (f : Nat)
    (ih : ∀ (g : Graph) (n : Nat) (g' : Graph), Ranked g.len g.mx rk → Mirror g.len g.mx g.ch →
      (∀ k, g.defns g.depth k = D k) → n < g.len → g.len < f + rk n → Graph.update f g n = (g', none) →
      Upd D g g' ∧ ∀ c, LPath g.ch n c → g.cp c = true → Done D g' c) :
    ∀ (cs : List Nat) (ga : Graph) (ea : Option CfgErr) (gb : Graph),
      Ranked ga.len ga.mx rk → Mirror ga.len ga.mx ga.ch → (∀ k, ga.defns ga.depth k = D k) →
      (∀ c ∈ cs, c < ga.len ∧ ga.len < f + rk c) →
      cs.foldl (fun (acc : Graph × Option CfgErr) c =>
          ((Graph.update f acc.1 c).1, match acc.2 with | some e => some e | none => (Graph.update f acc.1 c).2))
        (ga, ea) = (gb, none) →
      ea = none ∧ Upd D ga gb ∧ ∀ c ∈ cs, ∀ c', LPath ga.ch c c' → ga.cp c' = true → Done D gb c' := by
  intro cs
  induction cs with
  | nil =>
    intro ga ea gb _ _ _ _ h
    simp only [List.foldl_nil] at h
    obtain ⟨rfl, rfl⟩ := Prod.mk.inj h
    exact ⟨rfl, Upd.refl D _, fun _ h => by simp at h⟩
  | cons c cs ihc =>
    intro ga ea gb hr hmi hD hcs h
    simp only [List.foldl_cons] at h
    cases hu : Graph.update f ga c with
    | mk g2 e2 =>
    rw [hu] at h
    dsimp only at h
    have hs2 : Shape ga g2 := by have := (Graph.update_builds f ga c).shape; rw [hu] at this; exact this
    obtain ⟨he, hupd2, hrest⟩ := ihc g2 _ gb (Ranked.of_shape hs2 hr) (Mirror.of_shape hs2 hmi)
      (fun k => (hs2.defns k).trans (hD k)) (fun c' hc' => by rw [hs2.len]; exact hcs c' (by simp [hc'])) h
    have hea : ea = none ∧ e2 = none := by
      cases ea with
      | none => exact ⟨rfl, he⟩
      | some e => cases he
    obtain ⟨rfl, rfl⟩ := hea
    obtain ⟨hupd1, hreach1⟩ := ih ga c g2 hr hmi hD (hcs c (by simp)).1 (hcs c (by simp)).2 hu
    refine ⟨rfl, hupd1.trans hupd2, ?_⟩
    intro c0 hc0 c' hp hcp
    rcases List.mem_cons.mp hc0 with rfl | hc0
    · exact Done.upd hupd2 (hreach1 c' hp hcp)
    · apply hrest c0 hc0 c'
      · rw [hs2.ch]; exact hp
      · rw [hupd1.cp]; exact hcp

/-- `_update()` on `n`, all builds successful: every compiled function below `n` along linked paths has been
    rebuilt from the current definitions, nothing else changed but locks -/
theorem Graph.update_spec (D : Nat → List (Def × Int)) (rk : Nat → Nat) (f : Nat) (g : Graph) (n : Nat) (g' : Graph)
    (hr : Ranked g.len g.mx rk) (hmi : Mirror g.len g.mx g.ch) (hD : ∀ k, g.defns g.depth k = D k) (hn : n < g.len)
    (hf : g.len < f + rk n) (h : Graph.update f g n = (g', none)) :
    Upd D g g' ∧ ∀ c, LPath g.ch n c → g.cp c = true → Done D g' c := by
  -- fuel: a child has a larger rank and ranks stay below `len`, so the fuel may drop as the rank rises; at fuel 0 the
  -- bound contradicts `rk n < len`
  fun_induction Graph.update f g n generalizing g' with
  | case1 g n => have := hr.1 n hn; omega
  | case2 f g n g1 e1 h1 ih =>
    -- `h1 : (if (g.get n).compiled then g.compile n else (g, none)) = (g1, e1)`: the build at the head
    have hs1 := (Graph.compileIf_builds (g.get n).compiled g n).shape
    rw [Graph.compileIf, h1] at hs1
    rw [show (g1.get n).children = g.ch n from congrFun hs1.ch n] at h
    obtain ⟨rfl, hupd2, hrest⟩ := Graph.update_fold D rk f (fun g c => ih (g, none) c) (g.ch n) g1 e1 g'
      (Ranked.of_shape hs1 hr) (Mirror.of_shape hs1 hmi) (fun k => (hs1.defns k).trans (hD k))
      (fun c hc => by
        rw [hs1.len]
        have := hr.child hmi hc
        exact ⟨this.2.1, by omega⟩) h
    obtain ⟨hupd1, hdone1⟩ := Graph.recompile_spec hr hmi hD hn g1 h1
    refine ⟨hupd1.trans hupd2, ?_⟩
    intro c hp hcp
    cases hp with
    | refl => exact Done.upd hupd2 (hdone1 hcp)
    | step hb hp' =>
      apply hrest _ hb c
      · rw [hs1.ch]; exact hp'
      · rw [hupd1.cp]; exact hcp

end Ovld

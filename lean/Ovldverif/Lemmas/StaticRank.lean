import Ovldverif.Lemmas.Candidates
import Ovldverif.Lemmas.RankCore
import Ovldverif.Lemmas.PureLookup
/-!
# The ranking core instantiated with the candidates of a static table (C02)

`T := (key entry) × (declared type)`, so that the level of a declared type (`lvlT`: the one computed for the key
entry's class in the entry's slot) is a function of `T`; `leT` is "same as or subclass of" on the declared types;
two candidates have the same signature (`sigT`) when their methods do.
-/
set_option autoImplicit false
namespace Ovld

abbrev TT := (Slot × Ty) × Ty

section
variable (cfg : Cfg) (ms : List Meth) (k : Key)

def tysM (m : Meth) : List TT := k.map (fun e => (e, (m.tyAt e.1).getD default))
def tysT (c : Cand) : List TT := tysM k (methOf ms c.id)
def lvlT (a : TT) : Nat := lvlOf (keyLv cfg ms a.1) a.2
def leT (a b : TT) : Bool := leTy cfg.H a.2 b.2
def sigT (c c' : Cand) : Prop := sameSig (methOf ms c.id) (methOf ms c'.id) = true

theorem sameTypesAt_of_sameSig (m m' : Meth) (h : sameSig m m' = true) : sameTypesAt k m m' = true := by
  have hp : m.params = m'.params := by
    simp only [sameSig, Bool.and_eq_true, beq_iff_eq] at h
    exact h.1.1.1.1
  unfold sameTypesAt Meth.tyAt
  rw [hp]
  exact List.all_eq_true.mpr fun _ _ => beq_self_eq_true _

/-- everything the argument assumes about the table, the key and the candidate list -/
structure Ctx (cs : List Cand) : Prop where
  wf : cfg.H.WF
  hid : (ms.map (·.id)).Nodup
  slots : ∀ e ∈ k, SlotOK cfg ms e
  ok : CandsOK cfg ms k cs
  hcc : candComparable cfg.H ms k = true
  htie : sigTieOK cfg.H ms k = true

structure CandMeth (c : Cand) : Prop where
  mem : methOf ms c.id ∈ ms
  id : (methOf ms c.id).id = c.id
  app : applicableTo cfg.H k (methOf ms c.id) = true
  prio : c.prio = (methOf ms c.id).prio
  tb : c.tb = (methOf ms c.id).tb
  spec : c.spec = (tysT ms k c).map (lvlT cfg ms)

variable {cfg ms k}

theorem candComparable_spec (h : candComparable cfg.H ms k = true) {m m' : Meth}
    (hm : m ∈ applicable cfg.H ms k) (hm' : m' ∈ applicable cfg.H ms k) {e : Slot × Ty} (he : e ∈ k) {t t' : Ty}
    (hty : m.tyAt e.1 = some t) (hty' : m'.tyAt e.1 = some t') :
    leTy cfg.H t t' = true ∨ leTy cfg.H t' t = true := by
  have h3 := List.all_eq_true.mp (List.all_eq_true.mp (List.all_eq_true.mp h m hm) m' hm') e he
  rw [hty, hty'] at h3
  simpa using h3

theorem candComparable_nil (H : Hier) (ms : List Meth) : candComparable H ms [] = true := by
  simp [candComparable]

theorem sigTieOK_spec (h : sigTieOK cfg.H ms k = true) {m m' : Meth}
    (hm : m ∈ applicable cfg.H ms k) (hm' : m' ∈ applicable cfg.H ms k)
    (hs : sameTypesAt k m m' = true) (hp : m.prio = m'.prio) (hns : sameSig m m' = false) : m.tb = m'.tb := by
  have h2 := List.all_eq_true.mp (List.all_eq_true.mp h m hm) m' hm'
  rw [hs, hns, hp] at h2
  simpa using h2

section
variable {cs : List Cand} (X : Ctx cfg ms k cs)
include X

theorem Ctx.cand {c : Cand} (hc : c ∈ cs) : CandMeth cfg ms k c := by
  obtain ⟨m, hm, hmid, happ, hp, htb, hs⟩ := X.ok.sound c hc
  have e : methOf ms c.id = m := by rw [← hmid]; exact methOf_mem ms X.hid m hm
  refine ⟨e ▸ hm, e ▸ hmid, e ▸ happ, e ▸ hp, e ▸ htb, ?_⟩
  unfold tysT tysM
  rw [hs, e, List.map_map]
  rfl

theorem Ctx.applicable_of_cand {c : Cand} (hc : c ∈ cs) : methOf ms c.id ∈ applicable cfg.H ms k :=
  (mem_applicable cfg.H ms k _).mpr ⟨(X.cand hc).mem, (X.cand hc).app⟩

theorem Ctx.cand_of_applicable {m : Meth} (hm : m ∈ applicable cfg.H ms k) : ∃ c ∈ cs, methOf ms c.id = m := by
  obtain ⟨hm1, hm2⟩ := (mem_applicable cfg.H ms k m).mp hm
  obtain ⟨c, hc, hid⟩ := X.ok.complete m hm1 hm2
  exact ⟨c, hc, by rw [hid]; exact methOf_mem ms X.hid m hm1⟩

theorem Ctx.methOf_inj {c c' : Cand} (hc : c ∈ cs) (hc' : c' ∈ cs)
    (e : (methOf ms c.id).id = (methOf ms c'.id).id) : c = c' :=
  eq_of_nodup_map (·.id) X.ok.nodup hc hc' (by rw [← (X.cand hc).id, e, (X.cand hc').id])

theorem app_slot {m : Meth} (hm : m ∈ applicable cfg.H ms k) {e : Slot × Ty} (he : e ∈ k) : hasLevel cfg ms e m := by
  obtain ⟨hm, happ⟩ := (mem_applicable cfg.H ms k m).mp hm
  exact (hasLevel_iff cfg ms e (X.slots e he) m hm).mpr (((applicableTo_iff cfg k m).mp happ).2 e he)

end

theorem leT_mono (wf : cfg.H.WF) {e : Slot × Ty} (S : SlotOK cfg ms e) {t t' : Ty}
    (hg : t ∈ (keyLv cfg ms e).map (·.1)) (hg' : t' ∈ (keyLv cfg ms e).map (·.1))
    (hle : leTy cfg.H t t' = true) (hne : t ≠ t') : lvlT cfg ms (e, t) > lvlT cfg ms (e, t') := by
  obtain ⟨x, rfl⟩ := S.cls t hg
  obtain ⟨y, rfl⟩ := S.cls t' hg'
  obtain ⟨⟨_, lx⟩, hlx, rfl⟩ := List.mem_map.mp hg
  obtain ⟨⟨_, ly⟩, hly, rfl⟩ := List.mem_map.mp hg'
  have hxy : x ≠ y := fun e' => hne (by rw [e'])
  have hsub : cfg.H.sub x y = true := by
    unfold leTy at hle
    rw [Bool.or_eq_true, C13_cls cfg.H wf] at hle
    exact hle.resolve_left fun h => hxy (Ty.cls.inj (eq_of_beq h))
  unfold lvlT
  dsimp only
  rw [lvlOf_of_mem _ S.nodup _ _ hlx, lvlOf_of_mem _ S.nodup _ _ hly]
  exact S.mono x y lx ly hlx hly hsub hxy

theorem tysM_eq_iff {cs : List Cand} (X : Ctx cfg ms k cs) {m m' : Meth}
    (hm : m ∈ applicable cfg.H ms k) (hm' : m' ∈ applicable cfg.H ms k) :
    tysM k m = tysM k m' ↔ sameTypesAt k m m' = true := by
  unfold tysM sameTypesAt
  rw [List.map_inj_left, List.all_eq_true]
  refine forall_congr' fun e => forall_congr' fun he => ?_
  obtain ⟨t, hty, _⟩ := app_slot X hm he
  obtain ⟨t', hty', _⟩ := app_slot X hm' he
  rw [hty, hty']
  simp

theorem all2_leT_iff {cs : List Cand} (X : Ctx cfg ms k cs) {m m' : Meth}
    (hm : m ∈ applicable cfg.H ms k) (hm' : m' ∈ applicable cfg.H ms k) :
    all2 (leT cfg) (tysM k m) (tysM k m') = true ↔ leAt cfg.H k m m' = true := by
  unfold tysM leAt
  rw [all2_map, List.all_eq_true, List.all_eq_true]
  refine forall_congr' fun e => forall_congr' fun he => ?_
  obtain ⟨t, hty, _⟩ := app_slot X hm he
  obtain ⟨t', hty', _⟩ := app_slot X hm' he
  rw [hty, hty']
  rfl

theorem rankHyp {cs : List Cand} (X : Ctx cfg ms k cs) :
    RankHyp' (leT cfg) (lvlT cfg ms) (tysT ms k) (sigT ms) cs := by
  have slot : ∀ c ∈ cs, ∀ c' ∈ cs, ∀ i (h : i < (tysT ms k c).length) (h' : i < (tysT ms k c').length),
      ∃ (he : i < k.length) (t t' : Ty), (tysT ms k c)[i] = (k[i], t) ∧ (tysT ms k c')[i] = (k[i], t') ∧
        (methOf ms c.id).tyAt k[i].1 = some t ∧ (methOf ms c'.id).tyAt k[i].1 = some t' ∧
        t ∈ (keyLv cfg ms k[i]).map (·.1) ∧ t' ∈ (keyLv cfg ms k[i]).map (·.1) := by
    intro c hc c' hc' i h h'
    have hi : i < k.length := by simpa [tysT, tysM] using h
    obtain ⟨t, hty, hg⟩ := app_slot X (X.applicable_of_cand hc) (List.getElem_mem hi)
    obtain ⟨t', hty', hg'⟩ := app_slot X (X.applicable_of_cand hc') (List.getElem_mem hi)
    exact ⟨hi, t, t', by simp [tysT, tysM, hty], by simp [tysT, tysM, hty'], hty, hty', hg, hg'⟩
  refine ⟨fun c hc => (X.cand hc).spec, fun c _ c' _ => by simp [tysT, tysM], ?_, ?_, ?_⟩
  · intro c hc c' hc' i h h'
    obtain ⟨hi, t, t', e, e', _, _, hg, hg'⟩ := slot c hc c' hc' i h h'
    rw [e, e']
    exact fun hle hne => leT_mono X.wf (X.slots _ (List.getElem_mem hi)) hg hg' hle (fun e => hne (by rw [e]))
  · intro c hc c' hc' i h h'
    obtain ⟨hi, t, t', e, e', hty, hty', _, _⟩ := slot c hc c' hc' i h h'
    rw [e, e']
    exact candComparable_spec X.hcc (X.applicable_of_cand hc) (X.applicable_of_cand hc') (List.getElem_mem hi) hty hty'
  · intro c hc c' hc' hty hp hsig
    rw [(X.cand hc).tb, (X.cand hc').tb]
    apply sigTieOK_spec X.htie (X.applicable_of_cand hc) (X.applicable_of_cand hc')
    · exact (tysM_eq_iff X (X.applicable_of_cand hc) (X.applicable_of_cand hc')).mp hty
    · rw [← (X.cand hc).prio, ← (X.cand hc').prio]; exact hp
    · exact Bool.eq_false_iff.mpr hsig

/-- the documented rule on candidates is the documented rule on their methods -/
theorem beats_iff {cs : List Cand} (X : Ctx cfg ms k cs) (c c' : Cand) (hc : c ∈ cs) (hc' : c' ∈ cs) :
    beatsC' (leT cfg) (tysT ms k) (sigT ms) c c' ↔
      beats cfg.H k (methOf ms c.id) (methOf ms c'.id) = true := by
  have hB := tysM_eq_iff X (X.applicable_of_cand hc) (X.applicable_of_cand hc')
  unfold beatsC' beats tysT sigT
  rw [(X.cand hc).prio, (X.cand hc').prio, (X.cand hc).tb, (X.cand hc').tb]
  simp only [Bool.or_eq_true, Bool.and_eq_true, decide_eq_true_eq, Bool.not_eq_true']
  rw [all2_leT_iff X (X.applicable_of_cand hc) (X.applicable_of_cand hc'), ← Bool.not_eq_true]
  constructor
  · rintro (p | ⟨pe, (⟨tne, a2⟩ | ⟨_, se, tb⟩)⟩)
    · exact Or.inl p
    · exact Or.inr ⟨pe, Or.inl ⟨a2, mt hB.mpr tne⟩⟩
    · exact Or.inr ⟨pe, Or.inr ⟨se, tb⟩⟩
  · rintro (p | ⟨pe, (⟨a2, tne⟩ | ⟨se, tb⟩)⟩)
    · exact Or.inl p
    · exact Or.inr ⟨pe, Or.inl ⟨mt hB.mp tne, a2⟩⟩
    · exact Or.inr ⟨pe, Or.inr ⟨hB.mpr (sameTypesAt_of_sameSig k _ _ se), se, tb⟩⟩

theorem Ctx.ranked {cs : List Cand} (X : Ctx cfg ms k cs) :
    BeatsOK (fun c c' => beats cfg.H k (methOf ms c.id) (methOf ms c'.id) = true) cs :=
  ((rankHyp X).ranked _ _ _ (fun a => by simp [leT, leTy])).congr (fun h hh c hc => beats_iff X h c hh hc)

end

theorem not_dependent_of_static (ms : List Meth) (hst : staticTable ms = true) (m : Meth) (hm : m ∈ ms) :
    m.dependent = false := by
  unfold Meth.dependent
  rw [List.any_eq_false]
  intro p hp
  obtain ⟨c, e⟩ := staticTable_cls hst hm hp
  exact e ▸ Bool.false_ne_true   -- `(Ty.cls c).isDep` reduces to `false`

/-- the rank `mkRanks` builds from a group of candidates of a static table -/
def staticRank (ms : List Meth) (g : List Cand) : Rank Entry (List Nat) :=
  { func := (match g.map (·.id) with | [id] => some (Entry.meth id) | _ => none),
    codes := (g.map (·.id)).filterMap (codeOf ms), err := g.map (·.id) }

theorem mkRanks_static (ms : List Meth) (hst : staticTable ms = true) :
    ∀ gs : List (List Cand), mkRanks ms gs = gs.map (staticRank ms)
  | [] => rfl
  | g :: gs => by
    have hdep : (g.map (·.id)).any (fun id => ((findMeth ms id).map Meth.dependent).getD false) = false := by
      rw [List.any_eq_false]
      intro id _
      cases hfm : findMeth ms id with
      | none => simp
      | some m => simp [not_dependent_of_static ms hst m (List.mem_of_find?_eq_some hfm)]
    rw [List.map_cons, ← mkRanks_static ms hst gs]
    unfold staticRank
    rw [mkRanks_cons, hdep]
    rfl

/-! The candidates `rest` against a reduced table `ms'`: `rest = cs`, `ms' = ms` is C02; C07 takes the candidates
ranked below the current method. -/

section
variable {cfg : Cfg} {ms : List Meth} {k : Key}

/-- the candidates `rest` (of all the candidates `cs` of the table `ms`) against a reduced table `ms'`: `corr` is
    the only link between the two, `nodup'` makes `applicable ms'` duplicate-free -/
structure Below (cs rest : List Cand) (ms' : List Meth) : Prop where
  X : Ctx cfg ms k cs
  sub : ∀ c ∈ rest, c ∈ cs
  nodup : rest.Nodup
  nodup' : ms'.Nodup
  corr : ∀ m, (m ∈ ms' ∧ applicableTo cfg.H k m = true) ↔ ∃ c ∈ rest, methOf ms c.id = m

theorem Below.firstGroup_of_winner {cs rest : List Cand} {ms' : List Meth} (B : Below (cfg := cfg) (ms := ms) (k := k) cs rest ms')
    {w : Meth} (hw : w ∈ applicable cfg.H ms' k)
    (hall : ∀ m' ∈ applicable cfg.H ms' k, m'.id = w.id ∨ beats cfg.H k w m' = true) :
    ∃ cw, methOf ms cw.id = w ∧ firstGroup rest = [cw] := by
  obtain ⟨cw, hcw, hmw⟩ := (B.corr w).mp ((mem_applicable cfg.H ms' k w).mp hw)
  refine ⟨cw, hmw, (B.X.ranked.sub B.sub).firstGroup_of_winner B.nodup cw hcw fun c hc hne => ?_⟩
  rw [hmw]
  exact (hall _ ((mem_applicable cfg.H ms' k _).mpr ((B.corr _).mpr ⟨c, hc, rfl⟩))).resolve_left
    fun h => hne (B.X.methOf_inj (B.sub c hc) (B.sub cw hcw) (by rw [h, hmw]))

theorem Below.winner_of_firstGroup {cs rest : List Cand} {ms' : List Meth} (B : Below (cfg := cfg) (ms := ms) (k := k) cs rest ms')
    (h : Cand) (hg : firstGroup rest = [h]) : h ∈ rest ∧ methOf ms h.id ∈ winners cfg.H ms' k := by
  obtain ⟨hh, hwin⟩ := (B.X.ranked.sub B.sub).winner_of_firstGroup h hg
  refine ⟨hh, (winners_mem cfg.H ms' k _).mpr
    ⟨(mem_applicable cfg.H ms' k _).mpr ((B.corr _).mpr ⟨h, hh, rfl⟩), fun m' hm' => ?_⟩⟩
  obtain ⟨c', hc', rfl⟩ := (B.corr m').mp ((mem_applicable cfg.H ms' k m').mp hm')
  by_cases e : c' = h
  · left; rw [e]
  · exact Or.inr (hwin c' hc' e)

theorem Below.agrees {cs rest : List Cand} {ms' : List Meth} (B : Below (cfg := cfg) (ms := ms) (k := k) cs rest ms') :
    specAgrees
      (resOfRank ((if rest = [] then none else some (firstGroup rest)).map (staticRank ms)))
      (specResolve cfg.H ms' k) := by
  rw [specResolve_eq]
  have hap : ∀ m, m ∈ applicable cfg.H ms' k ↔ ∃ c ∈ rest, methOf ms c.id = m := fun m =>
    (mem_applicable cfg.H ms' k m).trans (B.corr m)
  by_cases hre : rest = []
  · have : applicable cfg.H ms' k = [] := List.eq_nil_iff_forall_not_mem.mpr fun m hm => by
      obtain ⟨c, hc, _⟩ := (hap m).mp hm
      rw [hre] at hc
      cases hc
    rw [if_pos hre, this]
    exact True.intro
  · rw [if_neg hre]
    match hfg : firstGroup rest with
    | [] => exact absurd hfg (firstGroup_ne_nil rest hre)
    | [h] =>
      obtain ⟨hhc, hw⟩ := B.winner_of_firstGroup h hfg
      obtain ⟨hwa, hall⟩ := (winners_mem cfg.H ms' k _).mp hw
      have nd : (applicable cfg.H ms' k).Nodup := (List.filter_sublist).nodup B.nodup'
      rw [resolveWith_unique nd hwa hall fun m hm hm' => by
        obtain ⟨cw, hmw, hfg'⟩ := B.firstGroup_of_winner hm hm'
        rw [hfg] at hfg'
        cases hfg'
        exact hmw.symm]
      exact (B.X.cand (B.sub h hhc)).id.symm
    | h :: h2 :: tl =>
      obtain ⟨c, hc⟩ := List.exists_mem_of_ne_nil rest hre
      rw [resolveWith_no_winner (List.ne_nil_of_mem ((hap _).mpr ⟨c, hc, rfl⟩)) fun m hm hm' => by
        obtain ⟨cw, _, hfg'⟩ := B.firstGroup_of_winner hm hm'
        rw [hfg] at hfg'
        cases hfg']
      exact True.intro

theorem Below.of_filter {cfg : Cfg} {ms : List Meth} {k : Key} {cs rest : List Cand} (X : Ctx cfg ms k cs)
    (hsub : ∀ c ∈ rest, c ∈ cs) (nd : rest.Nodup) (q : Meth → Bool)
    (hq : ∀ c ∈ cs, q (methOf ms c.id) = true ↔ c ∈ rest) :
    Below (cfg := cfg) (ms := ms) (k := k) cs rest (ms.filter q) := by
  refine ⟨X, hsub, nd, List.filter_sublist.nodup (nodup_of_map_nodup (·.id) ms X.hid), fun m => ?_⟩
  rw [List.mem_filter]
  constructor
  · rintro ⟨⟨hm, hqm⟩, happ⟩
    obtain ⟨c, hc, rfl⟩ := X.cand_of_applicable ((mem_applicable cfg.H ms k m).mpr ⟨hm, happ⟩)
    exact ⟨c, (hq c hc).mp hqm, rfl⟩
  · rintro ⟨c, hc, rfl⟩
    exact ⟨⟨(X.cand (hsub c hc)).mem, (hq c (hsub c hc)).mpr hc⟩, (X.cand (hsub c hc)).app⟩

theorem Ctx.below {cs : List Cand} (X : Ctx cfg ms k cs) : Below (cfg := cfg) (ms := ms) (k := k) cs cs ms := by
  have B := Below.of_filter X (fun _ h => h) (nodup_of_map_nodup (·.id) cs X.ok.nodup) (fun _ => true)
    (fun _ hc => ⟨fun _ => hc, fun _ => rfl⟩)
  rwa [List.filter_eq_self.mpr fun _ _ => rfl] at B

end

theorem keyWF_cls {k : Key} (hk : keyWF k = true) : ∀ e ∈ k, e.2.isCls = true := by
  unfold keyWF at hk
  rw [Bool.and_eq_true] at hk
  exact List.all_eq_true.mp hk.2

theorem static_plan (cfg : Cfg) (ms : List Meth) (wf : cfg.H.WF) (anti : cfg.H.Antisym)
    (hid : (ms.map (·.id)).Nodup) (hst : staticTable ms = true)
    (k : Key) (hkc : ∀ e ∈ k, e.2.isCls = true)
    (hcc : candComparable cfg.H ms k = true) (htie : sigTieOK cfg.H ms k = true) :
    ∃ cs, Ctx cfg ms k cs ∧ plan cfg ms k =
      { ranks := (ranks cs).map (staticRank ms), allCodes := (sortCands cs).filterMap (fun c => codeOf ms c.id) } := by
  have slots : ∀ e ∈ k, SlotOK cfg ms e := fun e he => slotOK_of_cls cfg ms wf anti hst e (hkc e he)
  obtain ⟨cs, hcs, ok⟩ := candidates_ok cfg ms hid k slots
  refine ⟨cs, ⟨wf, hid, slots, ok, hcc, htie⟩, ?_⟩
  unfold plan
  rw [hcs, ← mkRanks_static ms hst]
  rfl

/-- C02 for a key whose run-time types are plain classes (the call without arguments, `k = []`, included) -/
theorem pure_agrees (cfg : Cfg) (ms : List Meth) (wf : cfg.H.WF) (anti : cfg.H.Antisym)
    (hid : (ms.map (·.id)).Nodup) (hst : staticTable ms = true)
    (k : Key) (hkc : ∀ e ∈ k, e.2.isCls = true)
    (hcc : candComparable cfg.H ms k = true) (htie : sigTieOK cfg.H ms k = true) :
    specAgrees (pureLookup (plan cfg ms) (none, k)) (specResolve cfg.H ms k) := by
  obtain ⟨cs, X, hplan⟩ := static_plan cfg ms wf anti hid hst k hkc hcc htie
  show specAgrees (pureTop (plan cfg ms) k) _
  rw [pureTop_eq_resOfRank _ k (by rw [hplan]), hplan,
    ← List.head?_eq_getElem?, List.head?_map, ranks_head]
  exact X.below.agrees

end Ovld

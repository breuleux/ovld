/-!
# Facts about lists, options and `if` that mention nothing of the model
-/
set_option autoImplicit false
namespace Ovld

/-- For a program `if c₁ then exit₁ else let ..; if c₂ then exit₂ else ..`: state the goal as `P (program)` and take one
    `if` at a time; the unifier sees through `let`, and the rest of the program is not copied into every case. -/
theorem ite_of {α : Sort _} {P : α → Prop} {c : Prop} [Decidable c] {a b : α} (ha : c → P a) (hb : ¬ c → P b) :
    P (if c then a else b) := by
  split
  · exact ha ‹_›
  · exact hb ‹_›

theorem eq_of_nodup_map {α β : Type} (f : α → β) {l : List α} (h : (l.map f).Nodup) {a b : α} (ha : a ∈ l)
    (hb : b ∈ l) (e : f a = f b) : a = b := by
  induction l with
  | nil => cases ha
  | cons x l ih =>
    rw [List.map_cons, List.nodup_cons] at h
    rcases List.mem_cons.mp ha with rfl | ha'
    · rcases List.mem_cons.mp hb with rfl | hb'
      · rfl
      · exact absurd (e ▸ List.mem_map_of_mem hb') h.1
    · rcases List.mem_cons.mp hb with rfl | hb'
      · exact absurd (e ▸ List.mem_map_of_mem ha') h.1
      · exact ih h.2 ha' hb'

theorem nodup_of_map_nodup {α β : Type} (f : α → β) (l : List α) (h : (l.map f).Nodup) : l.Nodup :=
  List.Pairwise.of_map f (fun _ _ hne e => hne (congrArg f e)) h

theorem any_congr_mem {α : Type} (l : List α) (p q : α → Bool) (h : ∀ a ∈ l, p a = q a) :
    l.any p = l.any q := by
  rw [Bool.eq_iff_iff, List.any_eq_true, List.any_eq_true]
  exact exists_congr fun a => and_congr_right fun ha => by rw [h a ha]

theorem all_congr_mem {α : Type} (l : List α) (p q : α → Bool) (h : ∀ a ∈ l, p a = q a) :
    l.all p = l.all q := by
  rw [Bool.eq_iff_iff, List.all_eq_true, List.all_eq_true]
  exact forall_congr' fun a => forall_congr' fun ha => by rw [h a ha]

theorem foldl_congr_mem {α β : Type} (s1 s2 : α → β → α) (l : List β) (h : ∀ a, ∀ b ∈ l, s1 a b = s2 a b) (a : α) :
    l.foldl s1 a = l.foldl s2 a :=
  List.foldl_rel (r := Eq) rfl fun b hb c _ e => e ▸ h c b hb

theorem foldl_preorder {α β : Type} (R : α → α → Prop) (hr : ∀ a, R a a) (ht : ∀ a b c, R a b → R b c → R a c)
    (step : α → β → α) (l : List β) (hs : ∀ a, ∀ b ∈ l, R a (step a b)) (a : α) : R a (l.foldl step a) :=
  List.foldlRecOn l step (hr a) fun x hx b hb => ht _ _ _ hx (hs x b hb)

/-- a fold of steps along a preorder `R`, each step establishing a fact `P b` about its own element that later
    steps keep (`I`: what the steps need and `R` preserves) -/
theorem foldl_each {α β : Type} (R : α → α → Prop) (hr : ∀ a, R a a) (ht : ∀ a b c, R a b → R b c → R a c)
    (I : α → Prop) (hI : ∀ a b, R a b → I a → I b) (P : β → α → Prop) (hP : ∀ x a b, R a b → P x a → P x b)
    (step : α → β → α) (l : List β) (hs : ∀ a, I a → ∀ b ∈ l, R a (step a b) ∧ P b (step a b)) :
    ∀ a, I a → R a (l.foldl step a) ∧ ∀ b ∈ l, P b (l.foldl step a) := by
  induction l with
  | nil => intro a _; exact ⟨hr a, fun _ h => nomatch h⟩
  | cons b l ih =>
    intro a ha
    obtain ⟨h1, h2⟩ := hs a ha b (by simp)
    obtain ⟨h3, h4⟩ := ih (fun a ha b hb => hs a ha b (by simp [hb])) _ (hI _ _ h1 ha)
    refine ⟨ht _ _ _ h1 h3, fun x hx => ?_⟩
    rcases List.mem_cons.mp hx with rfl | hx
    · exact hP _ _ _ h3 h2
    · exact h4 x hx

theorem mapM_option_iff {α β : Type} (f : α → Option β) :
    ∀ (l : List α) (rs : List β), l.mapM f = some rs ↔ l.map f = rs.map some
  | [], rs => by cases rs <;> simp
  | a :: l, [] => by
    rw [List.mapM_cons]
    cases f a <;> cases l.mapM f <;> simp
  | a :: l, r :: rs => by
    rw [List.mapM_cons, List.map_cons, List.map_cons, List.cons.injEq, ← mapM_option_iff f l rs]
    cases f a <;> cases l.mapM f <;> simp

theorem mapM_some_of_forall {α β : Type} (f : α → Option β) (g : α → β) (l : List α)
    (h : ∀ a ∈ l, f a = some (g a)) : l.mapM f = some (l.map g) :=
  (mapM_option_iff f l _).mpr (by rw [List.map_map]; exact List.map_congr_left h)

theorem mapM_option_mem {α β : Type} (f : α → Option β) (l : List α) (rs : List β) (h : l.mapM f = some rs)
    (a : α) (ha : a ∈ l) : ∃ b ∈ rs, f a = some b := by
  have : f a ∈ rs.map some := (mapM_option_iff f l rs).mp h ▸ List.mem_map_of_mem ha
  obtain ⟨b, hb, e⟩ := List.mem_map.mp this
  exact ⟨b, hb, e.symm⟩

theorem mapM_option_forall {α β : Type} (f : α → Option β) (P : β → Prop) (hf : ∀ a b, f a = some b → P b)
    (l : List α) (rs : List β) (h : l.mapM f = some rs) (r : β) (hr : r ∈ rs) : P r := by
  have : some r ∈ l.map f := (mapM_option_iff f l rs).mp h ▸ List.mem_map_of_mem hr
  obtain ⟨a, _, e⟩ := List.mem_map.mp this
  exact hf a r e

theorem find?_fst_iff {α β : Type} [BEq α] [LawfulBEq α] {l : List (α × β)} (hnd : l.Pairwise (fun x y => x.1 ≠ y.1)) (k : α) (e : α × β) :
    l.find? (fun s => s.1 == k) = some e ↔ e ∈ l ∧ e.1 = k := by
  refine ⟨fun h => ⟨List.mem_of_find?_eq_some h, by simpa using List.find?_some h⟩, ?_⟩
  rintro ⟨he, rfl⟩
  induction l with
  | nil => cases he
  | cons x xs ih =>
    rw [List.pairwise_cons] at hnd
    rcases List.mem_cons.1 he with rfl | hin
    · exact List.find?_cons_of_pos (by simp)
    · rw [List.find?_cons_of_neg (by simpa using hnd.1 e hin)]
      exact ih hnd.2 hin

theorem find_fst_of_mem {α β : Type} [BEq α] [LawfulBEq α] (l : List (α × β)) (nd : (l.map (·.1)).Nodup) (a : α) (b : β)
    (h : (a, b) ∈ l) : l.find? (fun p => p.1 == a) = some (a, b) :=
  (find?_fst_iff (List.pairwise_map.mp nd) a (a, b)).mpr ⟨h, rfl⟩

theorem getElem?_filterMap_range {β : Type} (f : Nat → Option β) (m : Nat)
    (h : ∀ i, i < m → (f i).isSome = true) (i : Nat) (v : β) :
    ((List.range m).filterMap f)[i]? = some v ↔ i < m ∧ f i = some v := by
  have hm : (List.range m).filterMap f = (List.range m).map fun j => (f j).getD v := by
    induction m with
    | zero => rfl
    | succ m ih =>
      obtain ⟨w, hw⟩ := Option.isSome_iff_exists.1 (h m (Nat.lt_succ_self m))
      rw [List.range_succ, List.filterMap_append, List.map_append, ih fun j hj => h j (Nat.lt_succ_of_lt hj)]
      simp [hw]
  rw [hm, List.getElem?_map]
  by_cases hi : i < m
  · obtain ⟨w, hw⟩ := Option.isSome_iff_exists.1 (h i hi)
    simp [hi, hw]
  · simp [hi]

theorem idxOf_lt_of_sorted {α : Type} [BEq α] [LawfulBEq α] (rk : α → Nat) {a b : α} (hab : rk a < rk b)
    {l : List α} (hs : l.Pairwise (fun x y => rk x ≤ rk y)) (ha : a ∈ l) : l.idxOf a < l.idxOf b := by
  induction l with
  | nil => cases ha
  | cons x t ih =>
    rw [List.pairwise_cons] at hs
    have hxb : x ≠ b := fun e => by
      subst e
      rcases List.mem_cons.mp ha with rfl | ha
      · exact Nat.lt_irrefl _ hab
      · exact Nat.not_lt.mpr (hs.1 a ha) hab
    rw [List.idxOf_cons, List.idxOf_cons, beq_false_of_ne hxb, cond_false]
    by_cases hxa : x = a
    · rw [beq_iff_eq.mpr hxa, cond_true]
      exact Nat.succ_pos _
    · rw [beq_false_of_ne hxa, cond_false]
      exact Nat.succ_lt_succ (ih hs.2 ((List.mem_cons.mp ha).resolve_left (Ne.symm hxa)))

theorem exists_perm_sorted {α : Type} (rk : α → Nat) (l : List α) :
    ∃ l' : List α, l'.Perm l ∧ l'.Pairwise (fun x y => rk x ≤ rk y) := by
  refine ⟨l.mergeSort (fun x y => decide (rk x ≤ rk y)), List.mergeSort_perm _ _, ?_⟩
  refine (List.pairwise_mergeSort ?_ ?_ l).imp of_decide_eq_true
  · intro a b c hab hbc
    exact decide_eq_true (Nat.le_trans (of_decide_eq_true hab) (of_decide_eq_true hbc))
  · intro a b
    rw [Bool.or_eq_true, decide_eq_true_eq, decide_eq_true_eq]
    exact Nat.le_total _ _

theorem countP_lt {α : Type} (p q : α → Bool) : ∀ (l : List α),
    (∀ a ∈ l, p a = true → q a = true) → (∃ a ∈ l, p a = false ∧ q a = true) →
    l.countP p < l.countP q
  | b :: l, himp, ⟨a, ha, hpa, hqa⟩ => by
    have himp' : ∀ x ∈ l, p x = true → q x = true := fun x hx => himp x (List.mem_cons_of_mem _ hx)
    rw [List.countP_cons, List.countP_cons]
    rcases List.mem_cons.mp ha with rfl | e
    · have := List.countP_mono_left himp'
      rw [hpa, hqa]
      simp only [Bool.false_eq_true, if_false, if_true]
      omega
    · have := countP_lt p q l himp' ⟨a, e, hpa, hqa⟩
      by_cases hp : p b = true
      · rw [if_pos hp, if_pos (himp b List.mem_cons_self hp)]
        omega
      · rw [if_neg hp]
        split <;> omega

theorem exists_min_rank {α : Type} (rank : α → Nat) : ∀ (l : List α), l ≠ [] → ∃ v ∈ l, ∀ w ∈ l, rank v ≤ rank w
  | [a], _ => ⟨a, List.mem_cons_self, fun w hw => by rw [List.mem_singleton.mp hw]; exact Nat.le_refl _⟩
  | a :: b :: l, _ => by
    obtain ⟨m, hm, hmin⟩ := exists_min_rank rank (b :: l) (List.cons_ne_nil _ _)
    by_cases hle : rank a ≤ rank m
    · refine ⟨a, List.mem_cons_self, fun w hw => ?_⟩
      rcases List.mem_cons.mp hw with rfl | hw
      · exact Nat.le_refl _
      · exact Nat.le_trans hle (hmin w hw)
    · refine ⟨m, List.mem_cons_of_mem a hm, fun w hw => ?_⟩
      rcases List.mem_cons.mp hw with rfl | hw
      · omega
      · exact hmin w hw

theorem flatten_eq_heads {α : Type} : ∀ (L : List (List α)), (∀ g ∈ L, ∃ c, g = [c]) →
    L.flatten = L.filterMap List.head?
  | [], _ => rfl
  | g :: L, h => by
    obtain ⟨c, rfl⟩ := h g List.mem_cons_self
    rw [List.flatten_cons, List.filterMap_cons, flatten_eq_heads L (fun g hg => h g (List.mem_cons_of_mem _ hg))]
    rfl

theorem list_snoc_induction {α : Type} {P : List α → Prop} (h0 : P []) (h1 : ∀ l x, P l → P (l ++ [x])) : ∀ l, P l := by
  intro l
  suffices h : ∀ r : List α, P r.reverse by simpa using h l.reverse
  intro r
  induction r with
  | nil => exact h0
  | cons x r ih => rw [List.reverse_cons]; exact h1 _ _ ih

theorem singleton_of_nodup_all_eq {α : Type} : ∀ (l : List α), l.Nodup → ∀ (m : α), m ∈ l →
    (∀ x ∈ l, x = m) → l = [m]
  | [a], _, _, _, h => by rw [h a List.mem_cons_self]
  | a :: b :: l, nd, m, _, h => by
    have hb := h b (List.mem_cons_of_mem _ List.mem_cons_self)
    rw [h a List.mem_cons_self, hb] at nd
    exact absurd List.mem_cons_self (List.nodup_cons.mp nd).1

theorem all_all_perm {α : Type} (p : α → α → Bool) {l l' : List α} (hp : l'.Perm l) :
    l'.all (fun a => l'.all (p a)) = l.all (fun a => l.all (p a)) := by
  rw [hp.all_eq, funext (fun a => hp.all_eq (f := p a))]

/-- a `for` loop over a list with a state, every iteration of which either goes on or raises -/
def foldE {α σ ε : Type} (g : σ → α → Except ε σ) : List α → σ → Except ε σ
  | [], s => .ok s
  | x :: xs, s => match g s x with
    | .ok s' => foldE g xs s'
    | .error e => .error e

theorem forIn_eq_foldE {α σ ε : Type} (g : σ → α → Except ε σ) (f : α → σ → Except ε (ForInStep σ))
    (hfg : ∀ x s, f x s = match g s x with | .ok s' => .ok (ForInStep.yield s') | .error e => .error e)
    (l : List α) (init : σ) : forIn l init f = foldE g l init := by
  induction l generalizing init with
  | nil => rfl
  | cons x xs ih =>
    rw [List.forIn_cons, hfg]
    unfold foldE
    cases g init x with
    | ok s' => exact ih s'
    | error e => rfl

theorem forIn_check {α ε : Type} (p : α → Bool) (err : ε) (f : α → PUnit → Except ε (ForInStep PUnit))
    (hf : ∀ x s, f x s = if p x = true then .error err else .ok (ForInStep.yield PUnit.unit))
    (l : List α) : forIn l PUnit.unit f = if l.any p = true then .error err else .ok PUnit.unit := by
  induction l with
  | nil => rfl
  | cons x xs ih =>
    rw [List.forIn_cons, hf, List.any_cons]
    cases hp : p x with
    | true => rfl
    | false => exact ih

theorem check_seq {α β ε δ : Type} (p1 : α → Bool) (p2 : β → Bool) (err : ε)
    (f1 : α → PUnit → Except ε (ForInStep PUnit)) (f2 : β → PUnit → Except ε (ForInStep PUnit))
    (hf1 : ∀ x s, f1 x s = if p1 x = true then .error err else .ok (ForInStep.yield PUnit.unit))
    (hf2 : ∀ x s, f2 x s = if p2 x = true then .error err else .ok (ForInStep.yield PUnit.unit))
    (l1 : List α) (l2 : List β) (d : δ) :
    (do forIn l1 PUnit.unit f1; forIn l2 PUnit.unit f2; pure d : Except ε δ) =
      if l1.any p1 = true then .error err else if l2.any p2 = true then .error err else .ok d := by
  rw [forIn_check p1 err f1 hf1, forIn_check p2 err f2 hf2]
  cases l1.any p1 <;> cases l2.any p2 <;> rfl

end Ovld

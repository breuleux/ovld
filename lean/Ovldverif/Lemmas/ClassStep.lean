import Ovldverif.Lemmas.ClassCore
/-!
# One class statement: `classStep` against `effStep`

Every branch that gives the class an overloaded function builds it by `create`, mixins added one by one, `regAll`;
`Building` is what is known about that function on the way.
-/
set_option autoImplicit false
namespace Ovld
namespace ClassBody

def ownOf (k : ClassDecl) : List Def :=
  if k.mixin then (match k.defs.getLast? with | some d => [d] | none => []) else k.defs

def valuesOf (st : TState) (k : ClassDecl) : List Attr := k.bases.map (fun b => st.attr[b]?.getD .none)

def push (st : TState) (x : Attr) (h : Bool) : TState := { st with attr := st.attr ++ [x], hasF := st.hasF ++ [h] }

def mixOf (values : List Attr) : List (Nat × Bool) := (values.filterMap nodeOf).tail.filter (·.2)

def prepMs (values : List Attr) : List Nat :=
  (((values.filterMap nodeOf).head?.map (·.1)).toList ++ (mixOf values).map (·.1))

/-- `__prepare__`: the plain functions of the bases as functions of their own, then the merged function -/
def prepSt (st : TState) (values : List Attr) : TState :=
  ((plainMk st values).1.create (prepMs values ++ (plainMk st values).2)).1

def preOf (st : TState) (values : List Attr) : Nat := (plainMk st values).1.nn

/-- `@extend_super` in a class that inherits `m0 :: more` -/
def stepExtend (st : TState) (m0 : Attr) (more : List Attr) (d : Def) (rest : List Def) : TState :=
  let st2 := (st.create []).1.emit (.register st.nn d)
  let st3 := (st2.asNode m0).1
  let st4 := (st3.create [(st2.asNode m0).2]).1
  let st5 := mixAll st4 st3.nn more
  let st6 := st5.emit (.addMixins st3.nn [st.nn])
  push (regAll st6 st3.nn rest) (.node st3.nn false) true

def stepInherit (st : TState) (k : ClassDecl) : TState :=
  push st (match k.mro.find? (fun c => st.hasF[c]?.getD false) with
    | some c => st.attr[c]?.getD .none | Option.none => .none) false

/-- `classStep` over the body's definitions; after `__prepare__`, "create [], register v d, addMixins pre [v]" for
    the decorated definition is written `mixAll _ pre [.plain d]` -/
def classStepOn (st : TState) (k : ClassDecl) (own : List Def) : TState :=
  if !k.mixin && !(mixOf (valuesOf st k)).isEmpty then
    match own, k.extend with
    | d :: rest, true =>
      push (regAll (mixAll (prepSt st (valuesOf st k)) (preOf st (valuesOf st k)) [.plain d]) (preOf st (valuesOf st k)) rest)
        (.node (preOf st (valuesOf st k)) false) true
    | _, _ =>
      push (regAll (prepSt st (valuesOf st k)) (preOf st (valuesOf st k)) own) (.node (preOf st (valuesOf st k)) false) true
  else match own, k.extend && !k.mixin with
    | d :: rest, true =>
      match (valuesOf st k).filter Attr.isSome with
      | [] => push (regAll (st.create []).1 st.nn (d :: rest)) (.node st.nn true) true
      | m0 :: more => stepExtend st m0 more d rest
    | [d], _ => push st (.plain d) true
    | d :: d' :: rest, _ => push (regAll (st.create []).1 st.nn (d :: d' :: rest)) (.node st.nn false) true
    | [], _ => stepInherit st k

theorem classStep_eq (st : TState) (k : ClassDecl) : classStep st k = classStepOn st k (ownOf k) := rfl

def valsOf (acc : List Eff) (k : ClassDecl) : List Eff := k.bases.map (fun b => acc[b]?.getD {})

def mixE (vals : List Eff) : List Eff := ((vals.filter (fun e => e.kind == .ovld)).tail).filter (·.flagged)

def prepE (vals : List Eff) : List (List (Def × Int)) :=
  (((vals.filter (fun e => e.kind == .ovld)).head?.toList ++ mixE vals).map (·.defns))

def plainDs (vals : List Eff) : List Def := vals.filterMap (fun e => if e.kind == .plain then e.fn else none)

def plainE (vals : List Eff) : List (List (Def × Int)) := (plainDs vals).map (fun d => nodeDefns [] [d])

def effStepOn (acc : List Eff) (k : ClassDecl) (own : List Def) : List Eff :=
  if !k.mixin && !(mixE (valsOf acc k)).isEmpty then
    match own, k.extend with
    | d :: rest, true =>
      acc ++ [{ kind := .ovld, defns := nodeDefns (prepE (valsOf acc k) ++ plainE (valsOf acc k) ++ [nodeDefns [] [d]]) rest,
                hasF := true }]
    | _, _ => acc ++ [{ kind := .ovld, defns := nodeDefns (prepE (valsOf acc k) ++ plainE (valsOf acc k)) own, hasF := true }]
  else match own, k.extend && !k.mixin with
    | d :: rest, true =>
      match (valsOf acc k).filter (fun e => e.kind != .none) with
      | [] => acc ++ [{ kind := .ovld, flagged := true, defns := nodeDefns [] (d :: rest), hasF := true }]
      | _ =>
        acc ++ [{ kind := .ovld, hasF := true,
                  defns := nodeDefns (((valsOf acc k).filter (fun e => e.kind != .none)).map (·.defns) ++
                    [nodeDefns [] [d]]) rest }]
    | [d], _ => acc ++ [{ kind := .plain, defns := nodeDefns [] [d], fn := some d, hasF := true }]
    | d :: d' :: rest, _ => acc ++ [{ kind := .ovld, defns := nodeDefns [] (d :: d' :: rest), hasF := true }]
    | [], _ =>
      match k.mro.find? (fun c => (acc[c]?.getD {}).hasF) with
      | some c => acc ++ [{ (acc[c]?.getD {}) with hasF := false }]
      | none => acc ++ [{}]

theorem effStep_eq (acc : List Eff) (k : ClassDecl) : effStep acc k = effStepOn acc k (ownOf k) := rfl

/-- `D'` solves the equations of `defns` on `a` -/
def Sol (a : AG) (D' : Nat → List (Def × Int)) : Prop :=
  ∀ n, n < a.len → D' n = overlay (overlayAll ((a.mx n).map D')) (a.ow n)

/-- a class statement took `st` to `st'` as `e` documents.  `D` gives the definitions of the functions that existed
    before; the new attribute is judged under every solution `D'` of the new graph that agrees with `D` on those, so
    `Graph.defns` and its fuel do not appear here -/
def StepOK (st : TState) (a : AG) (D : Nat → List (Def × Int)) (st' : TState) (e : Eff) : Prop :=
  ∃ a' x, Snap st' a' ∧ a.Grows a.len a' ∧ st'.attr = st.attr ++ [x] ∧ st'.hasF = st.hasF ++ [e.hasF] ∧
    ∀ D', Sol a' D' → (∀ m, m < a.len → D' m = D m) → RelAE a'.len D' x e

theorem Snap.push {st : TState} {a : AG} (h : Snap st a) (x : Attr) (b : Bool) : Snap (push st x b) a :=
  ⟨h.oks, h.run, h.len⟩

theorem spec_inherit {st : TState} {a : AG} {acc : List Eff} {D : Nat → List (Def × Int)} (hs : Snap st a)
    (hag : All2 (RelAE a.len D) st.attr acc) (hf : st.hasF = acc.map (·.hasF)) (k : ClassDecl) :
    ∃ e, (match k.mro.find? (fun c => (acc[c]?.getD {}).hasF) with
        | some c => acc ++ [{ (acc[c]?.getD {}) with hasF := false }]
        | none => acc ++ [{}]) = acc ++ [e] ∧ StepOK st a D (stepInherit st k) e := by
  have hfun : (fun (c : Nat) => st.hasF[c]?.getD false) = fun (c : Nat) => (acc[c]?.getD ({} : Eff)).hasF := by
    funext c
    rw [hf, List.getElem?_map]
    cases acc[c]? <;> rfl
  unfold stepInherit
  rw [hfun]
  cases hfind : k.mro.find? (fun c => (acc[c]?.getD ({} : Eff)).hasF) with
  | none => exact ⟨_, rfl, a, .none, hs.push _ _, .refl _ _, rfl, rfl, fun _ _ _ => rfl⟩
  | some c =>
    refine ⟨_, rfl, a, st.attr[c]?.getD .none, hs.push _ _, .refl _ _, rfl, rfl, fun D' _ hold => ?_⟩
    have h1 : RelAE a.len D' _ _ := (hag.getD (dx := Attr.none) (dy := ({} : Eff)) rfl c).mono (Nat.le_refl _) hold
    dsimp only
    generalize st.attr[c]?.getD .none = x at h1
    generalize acc[c]?.getD ({} : Eff) = e at h1
    cases x <;> exact h1

/-- what the mixin `m` contributes: an old function's definitions as they were, or one plain function's -/
def Gives (a : AG) (D : Nat → List (Def × Int)) (a1 : AG) (m : Nat) (md : List (Def × Int)) : Prop :=
  (m < a.len ∧ D m = md) ∨ ∃ d, m < a1.len ∧ LeafAt a1 m d ∧ md = nodeDefns [] [d]

section
variable {a : AG} {D : Nat → List (Def × Int)} {a1 : AG} {m : Nat} {md : List (Def × Int)}

theorem Gives.of_mix {x : Attr} {e : Eff}
    (hm : MixRel a1 x m) (hr : RelAE a.len D x e) : Gives a D a1 m e.defns := by
  cases x with
  | none => exact hm.2.elim
  | plain d => exact Or.inr ⟨d, hm.1, hm.2, hr.2.2⟩
  | node m' fl => exact Or.inl ((show m = m' from hm.2) ▸ ⟨hr.2.2.1, hr.2.2.2⟩)

theorem Gives.lt (h : Gives a D a1 m md) (hle : a.len ≤ a1.len) : m < a1.len :=
  h.elim (fun h => Nat.lt_of_lt_of_le h.1 hle) (fun ⟨_, h, _⟩ => h)

theorem Gives.eval {a' : AG} {D' : Nat → List (Def × Int)} (hsol : Sol a' D') (hold : ∀ m, m < a.len → D' m = D m)
    (h : Gives a D a' m md) : D' m = md := by
  rcases h with ⟨h1, h2⟩ | ⟨d, h1, h2, rfl⟩
  · rw [hold m h1, h2]
  · rw [hsol m h1, h2.1, h2.2]; rfl

theorem Gives.grows {a2 : AG} {n : Nat} (hg : a1.Grows n a2) {L : List Nat} {mds : List (List (Def × Int))}
    (hn : n ∉ L) (h : All2 (Gives a D a1) L mds) :
    All2 (Gives a D a2) L mds := by
  induction h with
  | nil => exact All2.nil
  | @cons m md _ _ h1 _ ih =>
    refine All2.cons (h1.imp id fun ⟨d, h2, h3, h4⟩ => ?_) (ih (fun hm => hn (List.mem_cons_of_mem _ hm)))
    obtain ⟨e1, e2⟩ := hg.2 m h2 (fun e => hn (e ▸ List.mem_cons_self))
    exact ⟨d, Nat.lt_of_lt_of_le h2 hg.1, ⟨e1.trans h3.1, e2.trans h3.2⟩, h4⟩

end

/-- the class's function `N` so far: new, nothing refers to it, no definitions of its own yet, its mixins `L`
    contribute `mds`; no older function has changed -/
structure Building (st : TState) (a : AG) (D : Nat → List (Def × Int)) (N : Nat) (st1 : TState) (a1 : AG)
    (L : List Nat) (mds : List (List (Def × Int))) : Prop where
  snap : Snap st1 a1
  grows : a.Grows N a1
  new : a.len ≤ N
  lt : N < a1.len
  childless : a1.Childless N
  mx : a1.mx N = L
  ow : a1.ow N = []
  classes : st1.attr = st.attr ∧ st1.hasF = st.hasF
  gives : All2 (Gives a D a1) L mds

section building
variable {st : TState} {a : AG} {D : Nat → List (Def × Int)} {N : Nat} {st1 : TState} {a1 : AG} {L : List Nat}
  {mds : List (List (Def × Int))}

theorem Building.not_mem (b : Building st a D N st1 a1 L mds) : N ∉ L := b.mx ▸ b.childless N

theorem Building.create {st0 : TState} {a0 : AG} (hs : Snap st0 a0) (hg : a.Grows a.len a0)
    (hc : st0.attr = st.attr ∧ st0.hasF = st.hasF) (hL : All2 (Gives a D a0) L mds) :
    Building st a D st0.nn (st0.create L).1 (a0.step (.create L false)) L mds := by
  have hlt : ∀ m ∈ L, m < a0.len := fun m hm => by
    obtain ⟨_, _, h⟩ := hL.left m hm
    exact h.lt hg.1
  have hnL : a0.len ∉ L := fun h => Nat.lt_irrefl _ (hlt _ h)
  rw [← hs.len]
  exact ⟨hs.create L hlt, (hg.weaken _).trans (AG.grows_create a0 _ _ _), hg.1, Nat.lt_succ_self _,
    fun k hk => (mem_upd hk).elim (fun e => hnL e.2) (fun h => Nat.lt_irrefl _ (hs.closed.1 k _ h)),
    upd_same _ _ _, hs.closed.2 _ (Nat.le_refl _), hc, Gives.grows (AG.grows_create a0 _ _ _) hnL hL⟩

theorem Building.mix (b : Building st a D N st1 a1 L mds) {m : Nat} {md : List (Def × Int)} (hm : Gives a D a1 m md)
    (hne : m ≠ N) :
    Building st a D N (st1.emit (.addMixins N [m])) (a1.step (.addMixins N [m])) (L ++ [m]) (mds ++ [md]) := by
  have hg := AG.grows_addMixins a1 N [m]
  have hN : N ∉ L ++ [m] := fun h => (List.mem_append.mp h).elim b.not_mem (fun h => hne (List.mem_singleton.mp h).symm)
  refine ⟨b.snap.addMixins N [m] ⟨b.lt, fun m' hm' => ?_⟩, b.grows.trans hg, b.new, b.lt,
    fun k hk => (mem_upd hk).elim (fun e => hN (b.mx ▸ e.2)) (b.childless k), ?_, b.ow, b.classes,
    Gives.grows hg hN (b.gives.append (All2.cons hm All2.nil))⟩
  · rw [List.mem_singleton] at hm'; subst hm'
    exact ⟨hm.lt b.grows.1, hne, b.childless.not_anc⟩
  · show upd a1.mx N (a1.mx N ++ [m]) N = _
    rw [upd_same, b.mx]

theorem Building.asNode (b : Building st a D N st1 a1 L mds) {x : Attr} {e : Eff} (hr : RelAE a.len D x e) (hx : x.isSome = true) :
    ∃ a2, Building st a D N (st1.asNode x).1 a2 L mds ∧ a1.Grows N a2 ∧ Gives a D a2 (st1.asNode x).2 e.defns ∧
      (st1.asNode x).2 ≠ N := by
  obtain ⟨a2, s2, g2, hedge, hrel, hnew⟩ := asNode_spec b.snap (Nat.le_trans b.new (Nat.le_of_lt b.lt)) (hr.old hx)
  obtain ⟨e1, e2⟩ := g2.2 N b.lt (Nat.ne_of_lt b.lt)
  exact ⟨a2, ⟨s2, b.grows.trans (g2.weaken N), b.new, Nat.lt_of_lt_of_le b.lt g2.1, fun k hk => b.childless k (hedge k N hk),
    e1.trans b.mx, e2.trans b.ow, ⟨(asNode_classes st1 x).1.trans b.classes.1, (asNode_classes st1 x).2.trans b.classes.2⟩,
    Gives.grows (g2.weaken N) b.not_mem b.gives⟩, g2.weaken N, Gives.of_mix hrel hr,
    fun e => hnew.elim (fun h => Nat.lt_irrefl _ (Nat.lt_of_lt_of_le (e ▸ h) b.new))
      (fun h => Nat.lt_irrefl _ (Nat.lt_of_lt_of_le b.lt (e ▸ h)))⟩

theorem Building.mixAll {xs : List Attr} {es : List Eff} (h : All2 (RelAE a.len D) xs es)
    (hx : ∀ x ∈ xs, x.isSome = true) (b : Building st a D N st1 a1 L mds) :
    ∃ a2 L', Building st a D N (mixAll st1 N xs) a2 L' (mds ++ es.map (·.defns)) ∧ a1.Grows N a2 := by
  induction h generalizing st1 a1 L mds with
  | nil => exact ⟨a1, L, by rw [List.map_nil, List.append_nil]; exact b, .refl _ _⟩
  | @cons x e xs es hr _ ih =>
    obtain ⟨a2, b2, g2, hm, hne⟩ := b.asNode hr (hx x List.mem_cons_self)
    obtain ⟨a3, L', b3, g3⟩ := ih (fun y hy => hx y (List.mem_cons_of_mem _ hy)) (b2.mix hm hne)
    exact ⟨a3, L', by rw [List.map_cons, List.append_cons]; exact b3,
      g2.trans ((AG.grows_addMixins a2 N _).trans g3)⟩

theorem Building.finish (b : Building st a D N st1 a1 L mds) (ds : List Def) (fl : Bool) :
    StepOK st a D (push (regAll st1 N ds) (.node N fl) true)
      { kind := .ovld, flagged := fl, defns := nodeDefns mds ds, hasF := true } := by
  have hg := AG.grows_regs a1 N ds
  have hg' := b.grows.trans hg
  refine ⟨a1.regs N ds, .node N fl, (b.snap.regAll N ds b.lt).push _ _,
    ⟨hg'.1, fun k hk _ => hg'.2 k hk (Nat.ne_of_lt (Nat.lt_of_lt_of_le hk b.new))⟩, ?_, ?_,
    fun D' hsol hold => ⟨rfl, rfl, b.lt, ?_⟩⟩
  · show (regAll st1 N ds).attr ++ _ = _
    rw [(regAll_classes N ds st1).1, b.classes.1]
  · show (regAll st1 N ds).hasF ++ _ = _
    rw [(regAll_classes N ds st1).2, b.classes.2]
  · have hL : L.map D' = mds := (Gives.grows hg b.not_mem b.gives).map_eq (fun _ _ h => h.eval hsol hold)
    rw [hsol N b.lt, show (a1.regs N ds).mx N = L from b.mx, hL]
    show overlay (overlayAll mds) (upd a1.ow N (regs ds (a1.ow N)) N) = _
    rw [upd_same, b.ow]; rfl

end building

theorem spec_newFn {st : TState} {a : AG} {D : Nat → List (Def × Int)} (hs : Snap st a) (ds : List Def) (fl : Bool) :
    StepOK st a D (push (regAll (st.create []).1 st.nn ds) (.node st.nn fl) true)
      { kind := .ovld, flagged := fl, defns := nodeDefns [] ds, hasF := true } :=
  (Building.create hs (.refl _ _) ⟨rfl, rfl⟩ All2.nil).finish ds fl

theorem prep_rel {nn : Nat} {D : Nat → List (Def × Int)} {values : List Attr} {vals : List Eff}
    (h : All2 (RelAE nn D) values vals) :
    (mixOf values).isEmpty = (mixE vals).isEmpty ∧
      All2 (fun m md => m < nn ∧ D m = md) (prepMs values) (prepE vals) := by
  unfold prepMs prepE mixOf mixE
  have hov := h.filterMap_filter (S := RelOv nn D) (f := nodeOf) (q := fun e => e.kind == .ovld) (fun _ _ hr => hr.nodeOf)
  generalize values.filterMap nodeOf = ovs at hov ⊢
  generalize vals.filter (fun e => e.kind == .ovld) = ov at hov ⊢
  cases hov with
  | nil => exact ⟨rfl, All2.nil⟩
  | cons h1 ht =>
    have hmix := ht.filter (p := (·.2)) (q := (·.flagged)) (fun _ _ hr => hr.1)
    exact ⟨hmix.isEmpty_eq, All2.cons h1.2 (hmix.map (fun _ _ hr => hr.2))⟩

theorem building_prep {st : TState} {a : AG} {D : Nat → List (Def × Int)} (hs : Snap st a) {values : List Attr}
    {vals : List Eff} (hold : All2 (fun m md => m < a.len ∧ D m = md) (prepMs values) (prepE vals))
    (hpl : values.filterMap plainOf = plainDs vals) :
    ∃ a1 L, Building st a D (preOf st values) (prepSt st values) a1 L (prepE vals ++ plainE vals) := by
  obtain ⟨a1, ns, s1, hns, g1, hleaf, hc⟩ := plainLoop_spec values [] hs
  obtain rfl : ns = (plainMk st values).2 := hns.symm
  refine ⟨_, _, Building.create s1 g1 hc ((hold.imp (fun _ _ h => Or.inl h)).append ?_)⟩
  unfold plainE
  rw [← hpl]
  have := hleaf.map (f := id) (S := Gives a D a1) (fun m d h => Or.inr ⟨d, h.1, h.2, rfl⟩)
  rwa [List.map_id] at this

/-- the decorated definition becomes a function first and is mixed in last -/
theorem spec_extend {st : TState} {a : AG} {D : Nat → List (Def × Int)} (hs : Snap st a) {x0 : Attr} {e0 : Eff}
    {xs : List Attr} {es : List Eff} (h0 : RelAE a.len D x0 e0) (h : All2 (RelAE a.len D) xs es)
    (hsome : ∀ x ∈ x0 :: xs, x.isSome = true) (d : Def) (rest : List Def) :
    StepOK st a D (stepExtend st x0 xs d rest)
      { kind := .ovld, defns := nodeDefns ((e0 :: es).map (·.defns) ++ [nodeDefns [] [d]]) rest, hasF := true } := by
  obtain ⟨a2, s2, g2, _, r2, _⟩ := asNode_spec hs (Nat.le_refl _) (x := .plain d) trivial
  obtain ⟨a3, s3, g3, _, r3, _⟩ := asNode_spec s2 g2.1 (h0.old (hsome x0 List.mem_cons_self))
  have b := Building.create (st := st) s3 (g2.trans (g3.weaken _))
    ⟨(asNode_classes _ x0).1, (asNode_classes _ x0).2⟩ (All2.cons (Gives.of_mix r3 h0) All2.nil)
  obtain ⟨a5, L, b5, g5⟩ := b.mixAll h (fun y hy => hsome y (List.mem_cons_of_mem _ hy))
  have hv : st.nn ≠ (((st.create []).1.emit (.register st.nn d)).asNode x0).1.nn :=
    Nat.ne_of_lt (s3.len ▸ Nat.lt_of_lt_of_le r2.1 g3.1)
  have r := r2.grows ((g3.weaken _).trans ((AG.grows_create a3 _ _ _).trans g5)) hv
  exact (b5.mix (Or.inr ⟨d, r.1, r.2, rfl⟩) hv).finish rest false

theorem classStep_spec {st : TState} {a : AG} {acc : List Eff} (k : ClassDecl) {D : Nat → List (Def × Int)}
    (hs : Snap st a) (hag : All2 (RelAE a.len D) st.attr acc) (hf : st.hasF = acc.map (·.hasF)) :
    ∃ e, effStep acc k = acc ++ [e] ∧ StepOK st a D (classStep st k) e := by
  have hv : All2 (RelAE a.len D) (valuesOf st k) (valsOf acc k) :=
    hag.map_getD (dx := Attr.none) (dy := ({} : Eff)) rfl k.bases
  obtain ⟨hemp, hold⟩ := prep_rel hv
  have hpl : (valuesOf st k).filterMap plainOf = plainDs (valsOf acc k) := hv.filterMap_eq (fun _ _ hr => hr.plainOf)
  have hB := hv.filter (p := Attr.isSome) (q := fun e => e.kind != .none) (fun _ _ hr => hr.isSome)
  have hsome : ∀ x ∈ (valuesOf st k).filter Attr.isSome, x.isSome = true := fun x hx => (List.mem_filter.mp hx).2
  obtain ⟨a1, L, bA⟩ := building_prep hs hold hpl
  rw [classStep_eq, effStep_eq]
  generalize ownOf k = own
  unfold classStepOn effStepOn
  rw [hemp]
  generalize (!k.mixin && !(mixE (valsOf acc k)).isEmpty) = prepare
  cases prepare
  · rw [if_neg Bool.false_ne_true, if_neg Bool.false_ne_true]
    cases own with
    | nil => exact spec_inherit hs hag hf k
    | cons d rest =>
      cases (k.extend && !k.mixin) with
      | true =>
        generalize (valuesOf st k).filter Attr.isSome = xs at hB hsome
        generalize (valsOf acc k).filter (fun e : Eff => e.kind != .none) = es at hB
        cases hB with
        | nil => exact ⟨_, rfl, spec_newFn hs (d :: rest) true⟩
        | cons h0 h' => exact ⟨_, rfl, spec_extend hs h0 h' hsome d rest⟩
      | false =>
        cases rest with
        | nil => exact ⟨_, rfl, a, .plain d, hs.push _ _, .refl _ _, rfl, rfl, fun _ _ _ => ⟨rfl, rfl, rfl⟩⟩
        | cons d' rest => exact ⟨_, rfl, spec_newFn hs (d :: d' :: rest) false⟩
  · rw [if_pos rfl, if_pos rfl]
    cases own with
    | nil => exact ⟨_, rfl, bA.finish [] false⟩
    | cons d rest =>
      cases k.extend with
      | false => exact ⟨_, rfl, bA.finish (d :: rest) false⟩
      | true =>
        obtain ⟨a2, L', b2, _⟩ := bA.mixAll (xs := [.plain d])
          (es := [{ kind := .plain, defns := nodeDefns [] [d], fn := some d }])
          (All2.cons ⟨rfl, rfl, rfl⟩ All2.nil) (fun x hx => by rw [List.mem_singleton.mp hx]; rfl)
        exact ⟨_, rfl, b2.finish rest false⟩

end ClassBody
end Ovld

import Ovldverif.Model.SortTypes
import Ovldverif.Lemmas.ListFacts
/-!
# graphlib-style batching: predecessors come strictly earlier; an acyclic graph is covered completely; `levels` in
terms of the batches, for any registered types
-/
set_option autoImplicit false
namespace Ovld
variable {α : Type} [DecidableEq α]

theorem mem_ready_iff (pred : α → List α) (rem done : List α) (v : α) :
    v ∈ ready pred rem done ↔ v ∈ rem ∧ ∀ u ∈ pred v, u ∈ done := by
  simp only [ready, List.mem_filter, List.all_eq_true, decide_eq_true_eq]

/-- what remains after the batch `r` -/
theorem mem_filter_not_mem_iff (rem r : List α) (v : α) : v ∈ rem.filter (fun v => v ∉ r) ↔ v ∈ rem ∧ v ∉ r := by
  simp only [List.mem_filter, decide_eq_true_eq]

theorem batchIdx_ge (v : α) :
    ∀ (bs : List (List α)) (i j : Nat), batchIdx v bs i = some j → j ≥ i := by
  intro bs
  induction bs with
  | nil => intro i j h; simp [batchIdx] at h
  | cons b bs ih =>
    intro i j h
    simp only [batchIdx] at h
    split at h
    · cases h; omega
    · have := ih (i+1) j h; omega

theorem batchIdx_isSome (v : α) (bs : List (List α)) (i : Nat) :
    (batchIdx v bs i).isSome = true ↔ v ∈ bs.flatten := by
  induction bs generalizing i with
  | nil => simp [batchIdx]
  | cons b bs ih =>
    rw [List.flatten_cons, List.mem_append]
    simp only [batchIdx]
    by_cases hb : v ∈ b
    · rw [if_pos hb]
      simp [hb]
    · rw [if_neg hb, ih (i + 1)]
      simp [hb]

/-- anything placed in a batch has all its predecessors in `done` at that time, and `done` only holds nodes of
    earlier batches (or the initial `done`) -/
theorem pred_before (pred : α → List α) (f : Nat) (rem done : List α) (start : Nat) (u v : α) (jv : Nat)
    (hu : u ∈ pred v) (h : batchIdx v (batches pred f rem done) start = some jv) :
    u ∈ done ∨ ∃ ju, batchIdx u (batches pred f rem done) start = some ju ∧ ju < jv := by
  fun_induction batches pred f rem done generalizing start with
  | case1 => cases h
  | case2 => cases h
  | case3 f rem done r hr ih =>
    rw [batchIdx] at h ⊢
    by_cases hv : v ∈ r
    · -- `v` is ready now: its predecessors are done
      exact Or.inl (((mem_ready_iff pred rem done v).mp hv).2 u hu)
    · rw [if_neg hv] at h
      by_cases hub : u ∈ r
      · -- `u` is in this batch, `v` in a later one
        have := batchIdx_ge v _ _ _ h
        exact Or.inr ⟨start, if_pos hub, by omega⟩
      · -- both come later; `u`, not in this batch, is done after it only if it is done now
        rw [if_neg hub]
        exact (ih (start + 1) h).imp_left fun hd => (List.mem_append.mp hd).resolve_right hub

theorem pred_earlier (pred : α → List α) (f : Nat) (nodes : List α) (u v : α) (jv : Nat)
    (hu : u ∈ pred v) (h : batchIdx v (batches pred f nodes []) 0 = some jv) :
    ∃ ju, batchIdx u (batches pred f nodes []) 0 = some ju ∧ ju < jv := by
  rcases pred_before pred f nodes [] 0 u v jv hu h with hd | r
  · cases hd
  · exact r

theorem batches_nodup_subset (pred : α → List α) (f : Nat) (rem done : List α) (nd : rem.Nodup) :
    (batches pred f rem done).flatten.Nodup ∧ ∀ v ∈ (batches pred f rem done).flatten, v ∈ rem := by
  fun_induction batches pred f rem done with
  | case1 => exact ⟨List.nodup_nil, fun v hv => nomatch hv⟩
  | case2 => exact ⟨List.nodup_nil, fun v hv => nomatch hv⟩
  | case3 f rem done r hr ih =>
    -- the later batches come out of `rem` without `r`
    obtain ⟨ih1, ih2⟩ := ih (nd.sublist List.filter_sublist)
    have hlater : ∀ v ∈ (batches pred f (rem.filter (fun v => v ∉ r)) (done ++ r)).flatten, v ∈ rem ∧ v ∉ r :=
      fun v hv => (mem_filter_not_mem_iff rem r v).mp (ih2 v hv)
    rw [List.flatten_cons]
    refine ⟨List.nodup_append.mpr ⟨nd.sublist List.filter_sublist, ih1, ?_⟩, ?_⟩
    · intro a ha b hb hab
      exact (hlater b hb).2 (hab ▸ ha)
    · intro v hv
      rcases List.mem_append.mp hv with hv | hv
      · exact ((mem_ready_iff pred rem done v).mp hv).1
      · exact (hlater v hv).1

/-- progress: a remaining node of minimal rank is ready -/
theorem ready_ne_nil (pred : α → List α) (rank : α → Nat) (rem done : List α)
    (closed : ∀ v ∈ rem, ∀ u ∈ pred v, u ∈ rem ∨ u ∈ done)
    (acyclic : ∀ v ∈ rem, ∀ u ∈ pred v, rank u < rank v)
    (hne : rem ≠ []) : ready pred rem done ≠ [] := by
  obtain ⟨m, hm, hmin⟩ := exists_min_rank rank rem hne
  have hmr : m ∈ ready pred rem done := by
    rw [mem_ready_iff]
    refine ⟨hm, ?_⟩
    intro u hu
    rcases closed m hm u hu with h | h
    · have h1 := hmin u h
      have h2 := acyclic m hm u hu
      omega
    · exact h
  exact List.ne_nil_of_mem hmr

/-- `rank`, strictly increasing along `pred`, witnesses that the graph is acyclic (graphlib would raise `CycleError`
    on a node that lands in no batch) -/
theorem batches_cover (pred : α → List α) (rank : α → Nat) (f : Nat) (rem done : List α)
    (closed : ∀ v ∈ rem, ∀ u ∈ pred v, u ∈ rem ∨ u ∈ done)
    (acyclic : ∀ v ∈ rem, ∀ u ∈ pred v, rank u < rank v)
    (hf : rem.length ≤ f) : ∀ v ∈ rem, v ∈ (batches pred f rem done).flatten := by
  fun_induction batches pred f rem done with
  | case1 rem done =>
    -- no fuel, so nothing remains
    intro v hv
    rw [List.eq_nil_of_length_eq_zero (Nat.le_zero.mp hf)] at hv
    cases hv
  | case2 f rem done r hr =>
    -- nothing is ready, so nothing remains
    intro v hv
    exact absurd hr (ready_ne_nil pred rank rem done closed acyclic (List.ne_nil_of_mem hv))
  | case3 f rem done r hr ih =>
    have hmem := mem_filter_not_mem_iff rem r
    -- what remains is closed again: a predecessor that left `rem` went into `done`
    have closed' : ∀ w ∈ rem.filter (fun v => v ∉ r), ∀ u ∈ pred w,
        u ∈ rem.filter (fun v => v ∉ r) ∨ u ∈ done ++ r := by
      intro w hw u hu
      by_cases hur : u ∈ r
      · exact Or.inr (List.mem_append_right done hur)
      · rcases closed w ((hmem w).mp hw).1 u hu with h | h
        · exact Or.inl ((hmem u).mpr ⟨h, hur⟩)
        · exact Or.inr (List.mem_append_left r h)
    -- a ready node leaves `rem`, so the fuel still suffices
    have hlt : (rem.filter (fun v => v ∉ r)).length < rem.length := by
      rw [List.length_filter_lt_length_iff_exists]
      obtain ⟨m, hm⟩ := List.exists_mem_of_ne_nil r hr
      exact ⟨m, ((mem_ready_iff pred rem done m).mp hm).1, by simpa using hm⟩
    intro v hv
    rw [List.flatten_cons, List.mem_append]
    by_cases hvr : v ∈ r
    · exact Or.inl hvr
    · exact Or.inr (ih closed' (fun w hw => acyclic w ((hmem w).mp hw).1) (by omega) v ((hmem v).mpr ⟨hv, hvr⟩))

theorem batches_perm (pred : α → List α) (nodes : List α) (nd : nodes.Nodup)
    (closed : ∀ v ∈ nodes, ∀ u ∈ pred v, u ∈ nodes)
    (rank : α → Nat) (acyclic : ∀ v ∈ nodes, ∀ u ∈ pred v, rank u < rank v) :
    (batches pred nodes.length nodes []).flatten.Perm nodes := by
  obtain ⟨h1, h2⟩ := batches_nodup_subset pred nodes.length nodes [] nd
  exact (List.perm_ext_iff_of_nodup h1 nd).mpr fun a => ⟨h2 a, batches_cover pred rank nodes.length nodes []
    (fun v hv u hu => Or.inl (closed v hv u hu)) acyclic (Nat.le_refl _) a⟩

variable (H : Hier)

def applicableTys (cls : Ty) (avail : List Ty) : List Ty := avail.filter (fun t => subclasscheck H cls t)

def batchesOf (cls : Ty) (avail : List Ty) : List (List Ty) :=
  batches (predFn (allDeps H (applicableTys H cls avail))) (applicableTys H cls avail).length
    (applicableTys H cls avail) []

theorem batchesOf_nodup_subset (cls : Ty) {avail : List Ty} (nd : avail.Nodup) :
    (batchesOf H cls avail).flatten.Nodup ∧
      ∀ v ∈ (batchesOf H cls avail).flatten, v ∈ applicableTys H cls avail :=
  batches_nodup_subset _ _ _ [] (List.Nodup.sublist List.filter_sublist nd)

/-- numbering of the batches `bs`, of `n` in all, from position `k` on -/
def numberBatches (bs : List (List Ty)) (n k : Nat) : List (Ty × Nat) :=
  (bs.zipIdx k).flatMap (fun (b, i) => b.map (fun t => (t, n - 1 - i)))

theorem numberBatches_cons (b : List Ty) (bs : List (List Ty)) (n k : Nat) :
    numberBatches (b :: bs) n k = b.map (fun t => (t, n - 1 - k)) ++ numberBatches bs n (k + 1) := by
  simp [numberBatches, List.zipIdx_cons, List.flatMap_cons]

theorem numberBatches_fst (n : Nat) : ∀ (bs : List (List Ty)) (k : Nat),
    (numberBatches bs n k).map (·.1) = bs.flatten
  | [], k => by simp [numberBatches]
  | b :: bs, k => by
    rw [numberBatches_cons, List.map_append, numberBatches_fst n bs (k + 1), List.flatten_cons, List.map_map]
    congr 1
    simp [Function.comp_def]

theorem numberBatches_batchIdx (n : Nat) (t : Ty) (l : Nat) : ∀ (bs : List (List Ty)) (k : Nat),
    bs.flatten.Nodup → (t, l) ∈ numberBatches bs n k →
    ∃ i, batchIdx t bs k = some i ∧ i < k + bs.length ∧ l = n - 1 - i
  | [], k, _, h => by simp [numberBatches] at h
  | b :: bs, k, nd, h => by
    rw [numberBatches_cons, List.mem_append] at h
    rw [List.flatten_cons, List.nodup_append] at nd
    obtain ⟨_, nd2, hdis⟩ := nd
    rcases h with h | h
    · rw [List.mem_map] at h
      obtain ⟨t', ht', e⟩ := h
      cases e
      refine ⟨k, ?_, ?_, rfl⟩
      · simp only [batchIdx]; rw [if_pos ht']
      · simp
    · obtain ⟨i, hi, hlt, hl⟩ := numberBatches_batchIdx n t l bs (k + 1) nd2 h
      have hfl : t ∈ bs.flatten := by
        rw [← batchIdx_isSome t bs (k + 1), hi]; rfl
      have hnb : t ∉ b := fun hb => hdis t hb t hfl rfl
      refine ⟨i, ?_, ?_, hl⟩
      · simp only [batchIdx]; rw [if_neg hnb]; exact hi
      · simp only [List.length_cons]; omega

/-- `applicableTys`, `batchesOf`, `numberBatches` are the `let`s of `sortTypes` / `levels` given names: the statement
    is the definition read off, the `show` spells its unfolded form -/
theorem levels_eq_some (cls : Ty) (avail : List Ty) (lv : List (Ty × Nat)) :
    levels H cls avail = some lv ↔
      (batchesOf H cls avail).flatten.length = (applicableTys H cls avail).length ∧
      lv = numberBatches (batchesOf H cls avail) (batchesOf H cls avail).length 0 := by
  show (match (if (batchesOf H cls avail).flatten.length == (applicableTys H cls avail).length
      then some (batchesOf H cls avail) else none) with
    | none => none
    | some bs => some (numberBatches bs bs.length 0)) = some lv ↔
      (batchesOf H cls avail).flatten.length = (applicableTys H cls avail).length ∧
      lv = numberBatches (batchesOf H cls avail) (batchesOf H cls avail).length 0
  by_cases hl : (batchesOf H cls avail).flatten.length = (applicableTys H cls avail).length
  · rw [if_pos (beq_iff_eq.mpr hl)]
    exact ⟨fun e => ⟨hl, (Option.some.inj e).symm⟩, fun e => by rw [e.2]⟩
  · rw [if_neg (fun e => hl (beq_iff_eq.mp e))]
    exact ⟨fun e => (nomatch e), fun e => absurd e.1 hl⟩

theorem levels_batchIdx {cls : Ty} {avail : List Ty} (nd : avail.Nodup) {lv : List (Ty × Nat)}
    (h : levels H cls avail = some lv) {t : Ty} {l : Nat} (hm : (t, l) ∈ lv) :
    ∃ i, batchIdx t (batchesOf H cls avail) 0 = some i ∧ i < (batchesOf H cls avail).length ∧
      l = (batchesOf H cls avail).length - 1 - i := by
  rw [((levels_eq_some H cls avail lv).mp h).2] at hm
  obtain ⟨i, hi, hlt, hl⟩ := numberBatches_batchIdx _ t l (batchesOf H cls avail) 0 (batchesOf_nodup_subset H cls nd).1 hm
  exact ⟨i, hi, by omega, hl⟩

theorem levels_fst {cls : Ty} {avail : List Ty} (nd : avail.Nodup) {lv : List (Ty × Nat)}
    (h : levels H cls avail = some lv) :
    (lv.map (·.1)).Nodup ∧ ∀ t ∈ lv.map (·.1), t ∈ avail ∧ subclasscheck H cls t = true := by
  rw [((levels_eq_some H cls avail lv).mp h).2, numberBatches_fst]
  exact ⟨(batchesOf_nodup_subset H cls nd).1, fun t ht => List.mem_filter.mp ((batchesOf_nodup_subset H cls nd).2 t ht)⟩

end Ovld

import Ovldverif.Model.Rank
/-!
# Ranking core of C02: the first rank is a singleton `[w]` iff `w` beats every other candidate

The argument needs two things of "beats" (`BeatsOK`): of two candidates, the one of no lower priority `dominates`
the other exactly when it beats it, and beating means a strictly larger sort key.  The documented rule on
candidates has both (`RankHyp'.ranked`) when a candidate's specificity vector is the list of levels (`lvl`) of its
declared types `tys c`, one per slot of the key, and `le` is "same as or subclass of".
-/
set_option autoImplicit false
namespace Ovld

variable {T : Type} [DecidableEq T]

def all2 (r : T → T → Bool) : List T → List T → Bool
  | a :: as, b :: bs => r a b && all2 r as bs
  | _, _ => true

section
omit [DecidableEq T]

/-- `rfl`: `rw [all2]` proves the equation lemmas of `all2` first -/
theorem all2_cons (r : T → T → Bool) (a b : T) (as bs : List T) :
    all2 r (a :: as) (b :: bs) = (r a b && all2 r as bs) := rfl
theorem allGe_cons (a b : Nat) (as bs : List Nat) : allGe (a :: as) (b :: bs) = (decide (a ≥ b) && allGe as bs) := rfl

theorem all2_iff_getElem (r : T → T → Bool) : ∀ (xs ys : List T),
    all2 r xs ys = true ↔ ∀ i (h : i < xs.length) (h' : i < ys.length), r xs[i] ys[i] = true
  | [], _ => ⟨fun _ _ h => absurd h (Nat.not_lt_zero _), fun _ => rfl⟩
  | _ :: _, [] => ⟨fun _ _ _ h' => absurd h' (Nat.not_lt_zero _), fun _ => rfl⟩
  | x :: xs, y :: ys => by
    rw [all2_cons, Bool.and_eq_true, all2_iff_getElem r xs ys]
    constructor
    · rintro ⟨h0, hr⟩ (_ | i) h h'
      · exact h0
      · exact hr i (Nat.lt_of_succ_lt_succ h) (Nat.lt_of_succ_lt_succ h')
    · intro h
      exact ⟨h 0 (Nat.zero_lt_succ _) (Nat.zero_lt_succ _),
        fun i h1 h2 => h (i + 1) (Nat.succ_lt_succ h1) (Nat.succ_lt_succ h2)⟩

theorem all2_map {α : Type} (r : T → T → Bool) (f g : α → T) : ∀ (l : List α),
    all2 r (l.map f) (l.map g) = l.all (fun e => r (f e) (g e))
  | [] => rfl
  | a :: l => by rw [List.map_cons, List.map_cons, all2_cons, all2_map r f g l, List.all_cons]

theorem allGe_eq_all2 : ∀ (a b : List Nat), allGe a b = all2 (fun x y => decide (x ≥ y)) a b
  | [], _ => rfl
  | _ :: _, [] => rfl
  | _ :: a, _ :: b => by rw [allGe_cons, all2_cons, allGe_eq_all2 a b]

theorem allGe_sum : ∀ {a b : List Nat}, a.length = b.length → allGe a b = true → a.sum ≥ b.sum
  | [], [], _, _ => Nat.le_refl _
  | x :: xs, y :: ys, h, hge => by
    rw [allGe_cons, Bool.and_eq_true, decide_eq_true_eq] at hge
    have := allGe_sum (Nat.succ.inj h) hge.2
    rw [List.sum_cons, List.sum_cons]; omega

theorem allGe_sum_lt : ∀ {a b : List Nat}, a.length = b.length → allGe a b = true → a ≠ b → a.sum > b.sum
  | [], [], _, _, hne => absurd rfl hne
  | x :: xs, y :: ys, h, hge, hne => by
    rw [allGe_cons, Bool.and_eq_true, decide_eq_true_eq] at hge
    rw [List.sum_cons, List.sum_cons]
    by_cases hxy : x = y
    · have := allGe_sum_lt (Nat.succ.inj h) hge.2 (fun e => hne (by rw [hxy, e]))
      omega
    · have := allGe_sum (Nat.succ.inj h) hge.2
      omega

theorem allGe_iff_all2 (le : T → T → Bool) (lvl : T → Nat) (refl : ∀ a, le a a = true) (xs ys : List T)
    (mono : ∀ i (h : i < xs.length) (h' : i < ys.length),
      (le xs[i] ys[i] = true → xs[i] ≠ ys[i] → lvl xs[i] > lvl ys[i]) ∧
      (le ys[i] xs[i] = true → ys[i] ≠ xs[i] → lvl ys[i] > lvl xs[i]))
    (hc : ∀ i (h : i < xs.length) (h' : i < ys.length), le xs[i] ys[i] = true ∨ le ys[i] xs[i] = true) :
    allGe (xs.map lvl) (ys.map lvl) = true ↔ all2 le xs ys = true := by
  rw [allGe_eq_all2, all2_iff_getElem, all2_iff_getElem]
  simp only [List.length_map, List.getElem_map, decide_eq_true_eq]
  refine forall_congr' fun i => forall_congr' fun h => forall_congr' fun h' => ⟨fun hge => ?_, fun hle => ?_⟩
  · rcases hc i h h' with hle | hle
    · exact hle
    · by_cases e : ys[i] = xs[i]
      · rw [e]; exact refl _
      · have := (mono i h h').2 hle e; omega
  · by_cases e : xs[i] = ys[i]
    · rw [e]; exact Nat.le_refl _
    · exact Nat.le_of_lt ((mono i h h').1 hle e)

theorem map_lvl_eq_iff (le : T → T → Bool) (lvl : T → Nat) (xs ys : List T)
    (mono : ∀ i (h : i < xs.length) (h' : i < ys.length),
      (le xs[i] ys[i] = true → xs[i] ≠ ys[i] → lvl xs[i] > lvl ys[i]) ∧
      (le ys[i] xs[i] = true → ys[i] ≠ xs[i] → lvl ys[i] > lvl xs[i]))
    (hc : ∀ i (h : i < xs.length) (h' : i < ys.length), le xs[i] ys[i] = true ∨ le ys[i] xs[i] = true)
    (hlen : xs.length = ys.length) : xs.map lvl = ys.map lvl ↔ xs = ys := by
  refine ⟨fun e => List.ext_getElem hlen fun i h h' => Classical.byContradiction fun ne => ?_, fun e => by rw [e]⟩
  have hl := List.getElem_of_eq e (i := i) (by simpa using h)
  rw [List.getElem_map, List.getElem_map] at hl
  rcases hc i h h' with hle | hle
  · have := (mono i h h').1 hle ne; omega
  · have := (mono i h h').2 hle (Ne.symm ne); omega

end

def keyGt (a b : SortKey) : Prop :=
  a.1 > b.1 ∨ (a.1 = b.1 ∧ (a.2.1 > b.2.1 ∨ (a.2.1 = b.2.1 ∧ a.2.2 > b.2.2)))

theorem keyGe_iff (a b : SortKey) : keyGe a b = true ↔
    a.1 > b.1 ∨ (a.1 = b.1 ∧ (a.2.1 > b.2.1 ∨ (a.2.1 = b.2.1 ∧ a.2.2 ≥ b.2.2))) := by
  simp [keyGe]

theorem keyGe_trans (a b c : SortKey) : keyGe a b = true → keyGe b c = true → keyGe a c = true := by
  simp only [keyGe_iff]; omega
theorem keyGe_total (a b : SortKey) : (keyGe a b || keyGe b a) = true := by
  rw [Bool.or_eq_true, keyGe_iff, keyGe_iff]; omega
theorem keyGt_not_ge (a b : SortKey) : keyGt a b → keyGe b a = false := by
  rw [← Bool.not_eq_true, keyGe_iff, keyGt]; omega
theorem keyGe_prio (a b : SortKey) : keyGe a b = true → a.1 ≥ b.1 := by
  rw [keyGe_iff]; omega

theorem sortCands_perm (cs : List Cand) : (sortCands cs).Perm cs := List.mergeSort_perm _ _

theorem sortCands_sorted (cs : List Cand) :
    (sortCands cs).Pairwise (fun a b : Cand => keyGe a.key b.key = true) :=
  List.pairwise_mergeSort (le := fun a b : Cand => keyGe a.key b.key)
    (fun _ _ _ => keyGe_trans _ _ _) (fun _ _ => keyGe_total _ _) cs

def firstGroup (cs : List Cand) : List Cand :=
  match sortCands cs with
  | [] => []
  | h :: rest => h :: rest.filter (fun c => !dominates h c)

theorem firstGroup_cases (cs : List Cand) : (cs = [] ∧ firstGroup cs = []) ∨
    ∃ (h : Cand) (rest : List Cand), (∀ c, c ∈ cs ↔ c = h ∨ c ∈ rest) ∧ (∀ c ∈ rest, keyGe h.key c.key = true) ∧
      (cs.Nodup → h ∉ rest) ∧ firstGroup cs = h :: rest.filter (fun c => !dominates h c) := by
  have perm := sortCands_perm cs
  have srt := sortCands_sorted cs
  unfold firstGroup
  cases hs : sortCands cs with
  | nil => rw [hs] at perm; exact Or.inl ⟨perm.symm.eq_nil, rfl⟩
  | cons h rest =>
    rw [hs] at perm srt
    exact Or.inr ⟨h, rest, fun c => by rw [← perm.mem_iff, List.mem_cons], (List.pairwise_cons.mp srt).1,
      fun nd => (List.nodup_cons.mp (perm.nodup_iff.mpr nd)).1, rfl⟩

theorem ranks_head (cs : List Cand) : (ranks cs).head? = (if cs = [] then none else some (firstGroup cs)) := by
  unfold ranks firstGroup
  have perm := sortCands_perm cs
  cases hs : sortCands cs with
  | nil => rw [hs] at perm; simp [perm.symm.eq_nil, pull]
  | cons h rest =>
    have hne : cs ≠ [] := fun e => by rw [hs, e] at perm; exact absurd perm.eq_nil (by simp)
    simp [hne, pull]

theorem firstGroup_ne_nil (cs : List Cand) (hne : cs ≠ []) : firstGroup cs ≠ [] := by
  rcases firstGroup_cases cs with ⟨e, _⟩ | ⟨h, rest, _, _, _, e⟩
  · exact absurd e hne
  · rw [e]; exact List.cons_ne_nil _ _

structure BeatsOK (B : Cand → Cand → Prop) (cs : List Cand) : Prop where
  dom : ∀ h ∈ cs, ∀ c ∈ cs, h.prio ≥ c.prio → (dominates h c = true ↔ B h c)
  key : ∀ h ∈ cs, ∀ c ∈ cs, B h c → keyGt h.key c.key

namespace BeatsOK
variable {B B' : Cand → Cand → Prop} {cs cs' : List Cand}

theorem sub (R : BeatsOK B cs) (hs : ∀ c ∈ cs', c ∈ cs) : BeatsOK B cs' :=
  ⟨fun h hh c hc => R.dom h (hs h hh) c (hs c hc), fun h hh c hc => R.key h (hs h hh) c (hs c hc)⟩

theorem congr (R : BeatsOK B cs) (e : ∀ h ∈ cs, ∀ c ∈ cs, B h c ↔ B' h c) : BeatsOK B' cs :=
  ⟨fun h hh c hc hp => (R.dom h hh c hc hp).trans (e h hh c hc),
   fun h hh c hc b => R.key h hh c hc ((e h hh c hc).mpr b)⟩

theorem not_of_keyGe (R : BeatsOK B cs) {a c : Cand} (ha : a ∈ cs) (hc : c ∈ cs)
    (hge : keyGe c.key a.key = true) : ¬ B a c := fun b => by
  rw [keyGt_not_ge _ _ (R.key a ha c hc b)] at hge
  cases hge

theorem firstGroup_of_winner (R : BeatsOK B cs) (nd : cs.Nodup) (w : Cand) (hw : w ∈ cs)
    (win : ∀ c ∈ cs, c ≠ w → B w c) : firstGroup cs = [w] := by
  rcases firstGroup_cases cs with ⟨e, _⟩ | ⟨h, rest, hmem, hmax, hnd, e⟩
  · rw [e] at hw; cases hw
  · have hh : h ∈ cs := (hmem h).mpr (Or.inl rfl)
    -- the head of the sorted list is `w`: otherwise `w` comes after `h` and yet beats it
    have hw' : h = w := Classical.byContradiction fun ne =>
      R.not_of_keyGe hw hh (hmax w (((hmem w).mp hw).resolve_left (Ne.symm ne))) (win h hh ne)
    subst hw'
    rw [e, List.filter_eq_nil_iff.mpr]
    intro c hc
    have hcs : c ∈ cs := (hmem c).mpr (Or.inr hc)
    have b := win c hcs (fun e => hnd nd (e ▸ hc))
    simp [(R.dom h hh c hcs (keyGe_prio _ _ (hmax c hc))).mpr b]

theorem winner_of_firstGroup (R : BeatsOK B cs) (h : Cand) (hg : firstGroup cs = [h]) :
    h ∈ cs ∧ ∀ c ∈ cs, c ≠ h → B h c := by
  rcases firstGroup_cases cs with ⟨_, e⟩ | ⟨h', rest, hmem, hmax, _, e⟩
  · rw [e] at hg; cases hg
  · rw [e, List.cons.injEq, List.filter_eq_nil_iff] at hg
    obtain ⟨rfl, hf⟩ := hg
    have hh : h' ∈ cs := (hmem h').mpr (Or.inl rfl)
    refine ⟨hh, fun c hc cne => ?_⟩
    have cIn : c ∈ rest := ((hmem c).mp hc).resolve_left cne
    exact (R.dom h' hh c hc (keyGe_prio _ _ (hmax c cIn))).mp (by simpa using hf c cIn)

theorem sorted_dominates (R : BeatsOK B cs) (l pre : List Cand)
    (hs : l.Pairwise (fun a b : Cand => keyGe a.key b.key = true)) (hsub : ∀ c ∈ l, c ∈ cs) (nd : l.Nodup)
    (hstrict : ∀ a ∈ pre, ∀ c ∈ cs, c ≠ a → B a c ∨ B c a) :
    l.Pairwise (fun a c => a ∈ pre → dominates a c = true) := by
  have hne : l.Pairwise (· ≠ ·) := nd
  refine (hs.and hne).imp_of_mem ?_
  rintro a c ha hc ⟨hge, hac⟩ hp
  rw [R.dom a (hsub a ha) c (hsub c hc) (keyGe_prio _ _ hge)]
  exact (hstrict a hp c (hsub c hc) (Ne.symm hac)).resolve_right (R.not_of_keyGe (hsub c hc) (hsub a ha) hge)

/-- what stands before a candidate that is strictly ordered against all others beats it, what stands after does not -/
theorem split_sorted (R : BeatsOK B cs) {pre rest : List Cand}
    {c : Cand} (hs : (pre ++ c :: rest).Pairwise (fun a b : Cand => keyGe a.key b.key = true))
    (hsub : ∀ a ∈ pre ++ c :: rest, a ∈ cs) (nd : (pre ++ c :: rest).Nodup)
    (hstrict : ∀ a ∈ cs, a ≠ c → B c a ∨ B a c) : (∀ a ∈ pre, B a c) ∧ ∀ a ∈ rest, ¬ B a c := by
  have hc : c ∈ cs := hsub c (List.mem_append_right _ List.mem_cons_self)
  refine ⟨fun a ha => ?_, fun a ha => ?_⟩
  · have hac : a ∈ cs := hsub a (List.mem_append_left _ ha)
    exact (hstrict a hac ((List.nodup_append.mp nd).2.2 a ha c List.mem_cons_self)).resolve_left
      (R.not_of_keyGe hc hac ((List.pairwise_append.mp hs).2.2 a ha c List.mem_cons_self))
  · exact R.not_of_keyGe (hsub a (List.mem_append_right _ (List.mem_cons_of_mem _ ha))) hc
      ((List.pairwise_cons.mp (List.pairwise_append.mp hs).2.1).1 a ha)

end BeatsOK

section
variable (le : T → T → Bool) (lvl : T → Nat) (tys : Cand → List T)

/-- `beatsC` with "identical signature" as a relation -/
def beatsC' (ss : Cand → Cand → Prop) (c c' : Cand) : Prop :=
  c.prio > c'.prio ∨ (c.prio = c'.prio ∧
    ((tys c ≠ tys c' ∧ all2 le (tys c) (tys c') = true) ∨ (tys c = tys c' ∧ ss c c' ∧ c.tb > c'.tb)))

/-- `RankHyp` with `mono` asked only between the declared types of two candidates in one slot -/
structure RankHyp' (ss : Cand → Cand → Prop) (cs : List Cand) : Prop where
  spec : ∀ c ∈ cs, c.spec = (tys c).map lvl
  len : ∀ c ∈ cs, ∀ c' ∈ cs, (tys c).length = (tys c').length
  mono : ∀ c ∈ cs, ∀ c' ∈ cs, ∀ i (h : i < (tys c).length) (h' : i < (tys c').length),
            le ((tys c)[i]) ((tys c')[i]) = true → (tys c)[i] ≠ (tys c')[i] → lvl ((tys c)[i]) > lvl ((tys c')[i])
  comp : ∀ c ∈ cs, ∀ c' ∈ cs, ∀ i (h : i < (tys c).length) (h' : i < (tys c').length),
            le ((tys c)[i]) ((tys c')[i]) = true ∨ le ((tys c')[i]) ((tys c)[i]) = true
  sigTie : ∀ c ∈ cs, ∀ c' ∈ cs, tys c = tys c' → c.prio = c'.prio → ¬ ss c c' → c.tb = c'.tb

/-- (`refl` is an argument and not a field: it speaks of `le` alone, not of the candidates) -/
theorem RankHyp'.ranked (refl : ∀ a, le a a = true) {ss : Cand → Cand → Prop} {cs : List Cand}
    (H : RankHyp' le lvl tys ss cs) : BeatsOK (beatsC' le tys ss) cs := by
  have lists : ∀ h ∈ cs, ∀ c ∈ cs,
      (allGe ((tys h).map lvl) ((tys c).map lvl) = true ↔ all2 le (tys h) (tys c) = true) ∧
      ((tys h).map lvl = (tys c).map lvl ↔ tys h = tys c) := fun h hh c hc =>
    have mono := fun i a b => And.intro (H.mono h hh c hc i a b) (H.mono c hc h hh i b a)
    ⟨allGe_iff_all2 le lvl refl _ _ mono (H.comp h hh c hc),
     map_lvl_eq_iff le lvl _ _ mono (H.comp h hh c hc) (H.len h hh c hc)⟩
  constructor
  · intro h hh c hc hp
    obtain ⟨e2, e1⟩ := lists h hh c hc
    unfold dominates beatsC'
    rw [H.spec h hh, H.spec c hc]
    by_cases p : h.prio > c.prio
    · simp [p]
    · have pe : h.prio = c.prio := by omega
      by_cases te : tys h = tys c
      · -- same types: the tiebreak decides; `sigTie` makes it differ only between identical signatures
        have tie : h.tb > c.tb → ss h c := fun t =>
          Classical.byContradiction fun ne => by have := H.sigTie h hh c hc te pe ne; omega
        simpa [p, pe, te] using tie
      · simp [pe, te, mt e1.mp te, e2]
  · intro h hh c hc hb
    obtain ⟨e2, e1⟩ := lists h hh c hc
    unfold keyGt Cand.key
    rw [H.spec h hh, H.spec c hc]
    rcases hb with p | ⟨pe, (⟨tne, a2⟩ | ⟨te, _, t⟩)⟩
    · exact Or.inl p
    · exact Or.inr ⟨pe, Or.inl (allGe_sum_lt (by simp [H.len h hh c hc]) (e2.mpr a2) (fun e => tne (e1.mp e)))⟩
    · exact Or.inr ⟨pe, Or.inr ⟨by rw [te], t⟩⟩

variable (sig : Cand → Nat)

/-- the documented rule on candidates: higher priority; or equal priority and (pointwise same-or-subclass
    and different) or (identical signature and more recent) -/
def beatsC (c c' : Cand) : Prop :=
  c.prio > c'.prio ∨ (c.prio = c'.prio ∧
    ((tys c ≠ tys c' ∧ all2 le (tys c) (tys c') = true) ∨ (tys c = tys c' ∧ sig c = sig c' ∧ c.tb > c'.tb)))

structure RankHyp (n : Nat) (cs : List Cand) : Prop where
  spec : ∀ c ∈ cs, c.spec = (tys c).map lvl
  len : ∀ c ∈ cs, (tys c).length = n
  mono : ∀ a b, le a b = true → a ≠ b → lvl a > lvl b
  comp : ∀ c ∈ cs, ∀ c' ∈ cs, ∀ i (h : i < (tys c).length) (h' : i < (tys c').length),
            le ((tys c)[i]) ((tys c')[i]) = true ∨ le ((tys c')[i]) ((tys c)[i]) = true
  sigTie : ∀ c ∈ cs, ∀ c' ∈ cs, tys c = tys c' → c.prio = c'.prio → sig c ≠ sig c' → c.tb = c'.tb

theorem RankHyp.ranked (refl : ∀ a, le a a = true) {n : Nat} {cs : List Cand}
    (H : RankHyp le lvl tys sig n cs) : BeatsOK (beatsC le tys sig) cs :=
  RankHyp'.ranked le lvl tys refl (ss := fun c c' => sig c = sig c')
    ⟨H.spec, fun c hc c' hc' => by rw [H.len c hc, H.len c' hc'], fun _ _ _ _ _ _ _ => H.mono _ _, H.comp, H.sigTie⟩

theorem dominates_iff_beats (refl : ∀ a, le a a = true) {n : Nat} {cs : List Cand}
    (H : RankHyp le lvl tys sig n cs) (h c : Cand) (hh : h ∈ cs) (hc : c ∈ cs) (hp : h.prio ≥ c.prio) :
    dominates h c = true ↔ beatsC le tys sig h c :=
  (H.ranked le lvl tys sig refl).dom h hh c hc hp

theorem firstGroup_of_winner (refl : ∀ a, le a a = true) {n : Nat} {cs : List Cand}
    (H : RankHyp le lvl tys sig n cs) (nd : cs.Nodup) (w : Cand) (hw : w ∈ cs)
    (win : ∀ c ∈ cs, c ≠ w → beatsC le tys sig w c) :
    firstGroup cs = [w] :=
  (H.ranked le lvl tys sig refl).firstGroup_of_winner nd w hw win

theorem winner_of_firstGroup (refl : ∀ a, le a a = true) {n : Nat} {cs : List Cand}
    (H : RankHyp le lvl tys sig n cs) (h : Cand) (hg : firstGroup cs = [h]) :
    h ∈ cs ∧ ∀ c ∈ cs, c ≠ h → beatsC le tys sig h c :=
  (H.ranked le lvl tys sig refl).winner_of_firstGroup h hg

end
end Ovld

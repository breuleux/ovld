import Ovldverif.Lemmas.Batches
import Ovldverif.Props.C12
/-!
# Levels of plain classes: defined, exactly the applicable ones, strictly monotone

For a `TypeMap` whose registered types are plain classes (classes, ABCs, protocols) over a well-formed,
antisymmetric hierarchy: `sort_types` never hits a cycle, gives a level to exactly the registered superclasses
of the argument class, and a strict subclass always gets a strictly larger level than its superclass —
whatever the iteration order `avail` of the set of registered types and whatever else is registered.
-/
set_option autoImplicit false
namespace Ovld

variable (H : Hier)

def allCls (ts : List Ty) : Prop := ∀ t ∈ ts, ∃ c, t = .cls c

theorem predFn_cons (a : Ty) (d : List Ty) (tl : List (Ty × List Ty)) (t : Ty) :
    predFn ((a, d) :: tl) t = if a = t then d else predFn tl t := by
  unfold predFn
  by_cases h : a = t <;> simp [h]

theorem predFn_allDepsGo_notin : ∀ (rest before : List Ty) (t : Ty), t ∉ rest →
    predFn (allDepsGo H before rest) t = []
  | [], _, _, _ => rfl
  | a :: rest, before, t, h => by
    rw [show allDepsGo H before (a :: rest) = _ :: _ from rfl, predFn_cons,
      if_neg (fun (e : a = t) => h (e ▸ List.mem_cons_self))]
    exact predFn_allDepsGo_notin rest _ t (fun e => h (List.mem_cons_of_mem _ e))

/-- the entry looked up for `t` is the one of its first occurrence: everything before it is compared as
    `typeorder u t`, everything after it as `typeorder t u` -/
theorem predFn_allDepsGo : ∀ (rest before : List Ty) (t : Ty), t ∈ rest →
    ∃ l1 l2, rest = l1 ++ t :: l2 ∧
      predFn (allDepsGo H before rest) t = depsOf H (before ++ l1) t l2
  | a :: rest, before, t, h => by
    rw [show allDepsGo H before (a :: rest) = _ :: _ from rfl, predFn_cons]
    by_cases hat : a = t
    · subst hat
      exact ⟨[], rest, rfl, by simp⟩
    · rw [if_neg hat]
      obtain ⟨l1, l2, e1, e2⟩ := predFn_allDepsGo rest (before ++ [a]) t
        ((List.mem_cons.mp h).resolve_left (Ne.symm hat))
      exact ⟨a :: l1, l2, by rw [e1]; rfl, by rw [e2, List.append_assoc]; rfl⟩

/-- the predecessors of a registered `t`: the more specific types, each compared with `t` in the one direction
    `sort_types` computes -/
theorem mem_predFn (av : List Ty) (t : Ty) (ht : t ∈ av) : ∃ l1 l2, av = l1 ++ t :: l2 ∧
    ∀ u, u ∈ predFn (allDeps H av) t ↔
      (u ∈ l1 ∧ typeorder H u t = .less) ∨ (u ∈ l2 ∧ typeorder H t u = .more) := by
  obtain ⟨l1, l2, e1, e2⟩ := predFn_allDepsGo H av [] t ht
  refine ⟨l1, l2, e1, fun u => ?_⟩
  unfold allDeps
  rw [e2]
  simp only [depsOf, List.nil_append, List.mem_append, List.mem_filter, beq_iff_eq]

theorem pred_sound (av : List Ty) (u t : Ty) (h : u ∈ predFn (allDeps H av) t) :
    u ∈ av ∧ (typeorder H u t = .less ∨ typeorder H t u = .more) := by
  by_cases ht : t ∈ av
  · obtain ⟨l1, l2, e1, e2⟩ := mem_predFn H av t ht
    rw [e1]
    rcases (e2 u).mp h with ⟨h1, h2⟩ | ⟨h1, h2⟩
    · exact ⟨by simp [h1], Or.inl h2⟩
    · exact ⟨by simp [h1], Or.inr h2⟩
  · unfold allDeps at h
    rw [predFn_allDepsGo_notin H av [] t ht] at h
    cases h

/-- both directions: `sort_types` compares `u` and `t` once, in the direction their (here unknown) positions give -/
theorem pred_complete (av : List Ty) (u t : Ty) (hu : u ∈ av) (ht : t ∈ av) (hne : u ≠ t)
    (h1 : typeorder H u t = .less) (h2 : typeorder H t u = .more) :
    u ∈ predFn (allDeps H av) t := by
  obtain ⟨l1, l2, e1, e2⟩ := mem_predFn H av t ht
  rw [e1] at hu
  rcases List.mem_append.mp hu with h | h
  · exact (e2 u).mpr (Or.inl ⟨h, h1⟩)
  · exact (e2 u).mpr (Or.inr ⟨(List.mem_cons.mp h).resolve_left hne, h2⟩)

theorem cls_less_iff (anti : H.Antisym) (x y : Nat) :
    typeorder H (.cls x) (.cls y) = .less ↔ x ≠ y ∧ H.sub x y = true := by
  rw [C12_cls]
  by_cases h : x = y
  · simp [h]
  · simp only [h, if_false]
    cases hxy : H.sub x y <;> cases hyx : H.sub y x <;> simp [ofSub, h]
    exact h (anti x y hxy hyx)

theorem cls_more_iff (x y : Nat) :
    typeorder H (.cls y) (.cls x) = .more ↔ typeorder H (.cls x) (.cls y) = .less := by
  rw [C12_cls_mirror H x y]
  cases typeorder H (.cls x) (.cls y) <;> simp [TOrd.opposite]

/-- rank witnessing acyclicity: the number of strictly more specific nodes -/
def rankOf (av : List Ty) (t : Ty) : Nat := av.countP (fun u => typeorder H u t == .less)

theorem rank_lt (wf : H.WF) (anti : H.Antisym) (av : List Ty) (hs : allCls av) (u t : Ty)
    (hu : u ∈ av) (ht : t ∈ av) (h : typeorder H u t = .less) :
    rankOf H av u < rankOf H av t := by
  obtain ⟨x, rfl⟩ := hs u hu
  obtain ⟨y, rfl⟩ := hs t ht
  unfold rankOf
  apply countP_lt
  · intro w hw hwu
    obtain ⟨z, rfl⟩ := hs w hw
    rw [beq_iff_eq] at hwu ⊢
    exact C12_cls_trans H wf anti z x y hwu h
  · refine ⟨.cls x, hu, ?_, ?_⟩
    · rw [C12_refl]; rfl
    · rw [h]; rfl

section
variable (wf : H.WF) (anti : H.Antisym) (c : Nat) (avail : List Ty) (hs : allCls avail) (nd : avail.Nodup)
include wf anti hs nd

theorem batchesOf_perm :
    (batchesOf H (.cls c) avail).flatten.Perm (applicableTys H (.cls c) avail) := by
  have hs' : allCls (applicableTys H (.cls c) avail) := fun t ht => hs t (List.mem_filter.mp ht).1
  refine batches_perm _ _ (List.Nodup.sublist List.filter_sublist nd) (fun v _ u hu => (pred_sound H _ u v hu).1)
    (rankOf H (applicableTys H (.cls c) avail)) fun v hv u hu => ?_
  obtain ⟨hua, hor⟩ := pred_sound H _ u v hu
  obtain ⟨x, rfl⟩ := hs' u hua
  obtain ⟨y, rfl⟩ := hs' v hv
  exact rank_lt H wf anti _ hs' _ _ hua hv (hor.elim id (cls_more_iff H x y).mp)

/-- no `CycleError` on plain classes -/
theorem levels_defined : ∃ lv, levels H (.cls c) avail = some lv :=
  ⟨_, (levels_eq_some H _ _ _).mpr ⟨(batchesOf_perm H wf anti c avail hs nd).length_eq, rfl⟩⟩

theorem levels_fst_perm (lv : List (Ty × Nat)) (h : levels H (.cls c) avail = some lv) :
    (lv.map (·.1)).Perm (applicableTys H (.cls c) avail) := by
  rw [((levels_eq_some H _ _ _).mp h).2, numberBatches_fst]
  exact batchesOf_perm H wf anti c avail hs nd

theorem levels_mem (lv : List (Ty × Nat)) (h : levels H (.cls c) avail = some lv) :
    (lv.map (·.1)).Nodup ∧
    ∀ d : Nat, (∃ l, (Ty.cls d, l) ∈ lv) ↔ (Ty.cls d ∈ avail ∧ H.sub c d = true) := by
  refine ⟨(levels_fst H nd h).1, fun d => ?_⟩
  rw [← C13_cls H wf, ← List.mem_filter, ← applicableTys,
    ← (levels_fst_perm H wf anti c avail hs nd lv h).mem_iff, List.mem_map]
  exact ⟨fun ⟨l, hl⟩ => ⟨_, hl, rfl⟩, fun ⟨⟨t, l⟩, hl, e⟩ => ⟨l, by cases e; exact hl⟩⟩

end

theorem levels_mono (wf : H.WF) (anti : H.Antisym) (c : Nat) (avail : List Ty)
    (hs : allCls avail) (nd : avail.Nodup) (lv : List (Ty × Nat)) (h : levels H (.cls c) avail = some lv)
    (x y : Nat) (lx ly : Nat) (hx : (Ty.cls x, lx) ∈ lv) (hy : (Ty.cls y, ly) ∈ lv)
    (hsub : H.sub x y = true) (hne : x ≠ y) :
    lx > ly := by
  have hp := levels_fst_perm H wf anti c avail hs nd lv h
  obtain ⟨ix, hix, _, rfl⟩ := levels_batchIdx H nd h hx
  obtain ⟨iy, hiy, _, rfl⟩ := levels_batchIdx H nd h hy
  -- `x` is a predecessor of `y` in the graph `sort_types` builds, so it sits in an earlier batch
  have hlt : typeorder H (.cls x) (.cls y) = .less := (cls_less_iff H anti x y).mpr ⟨hne, hsub⟩
  have hpred : Ty.cls x ∈ predFn (allDeps H (applicableTys H (.cls c) avail)) (.cls y) :=
    pred_complete H _ _ _ (hp.mem_iff.mp (List.mem_map.mpr ⟨_, hx, rfl⟩)) (hp.mem_iff.mp (List.mem_map.mpr ⟨_, hy, rfl⟩))
      (fun e => hne (Ty.cls.inj e)) hlt ((cls_more_iff H x y).mpr hlt)
  obtain ⟨ju, hju, hjlt⟩ := pred_earlier _ _ _ _ _ iy hpred hiy
  have hjx : ju = ix := Option.some.inj (hju.symm.trans hix)
  omega

/-- `wf`, `anti`, `hs` are not used (`levels_batchIdx` is for any types) -/
theorem levels_fun (wf : H.WF) (anti : H.Antisym) (c : Nat) (avail : List Ty)
    (hs : allCls avail) (nd : avail.Nodup) (lv : List (Ty × Nat)) (h : levels H (.cls c) avail = some lv)
    (t : Ty) (l l' : Nat) (h1 : (t, l) ∈ lv) (h2 : (t, l') ∈ lv) : l = l' := by
  have _ := wf; have _ := anti; have _ := hs
  obtain ⟨i, hi, _, rfl⟩ := levels_batchIdx H nd h h1
  obtain ⟨i', hi', _, rfl⟩ := levels_batchIdx H nd h h2
  rw [Option.some.inj (hi.symm.trans hi')]

end Ovld

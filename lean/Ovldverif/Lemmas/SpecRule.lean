import Ovldverif.Spec.Resolve
import Ovldverif.Lemmas.ListFacts
/-!
# The documented rule as a function of the applicable entries and a comparison

`specResolve` and `specResolveE` (and through them `nextSpec`, `nextSpecE`) are one function `resolveWith` of the
list of applicable entries, taken with `beats` resp. `beatsE`; what the rule does not depend on is proved once.
-/
set_option autoImplicit false
namespace Ovld

theorem mem_applicable (H : Hier) (ms : List Meth) (k : Key) (m : Meth) :
    m ∈ applicable H ms k ↔ m ∈ ms ∧ applicableTo H k m = true :=
  List.mem_filter

theorem mem_of_applicable {H : Hier} {ms : List Meth} {k : Key} {m : Meth} (h : m ∈ applicable H ms k) : m ∈ ms :=
  (List.mem_filter.1 h).1

theorem applicable_perm (H : Hier) {ms ms' : List Meth} (hp : ms'.Perm ms) (k : Key) :
    (applicable H ms' k).Perm (applicable H ms k) :=
  hp.filter _

theorem applicable_append_irrelevant (H : Hier) (ms extra : List Meth) (k : Key)
    (hx : ∀ m ∈ extra, applicableTo H k m = false) :
    applicable H (ms ++ extra) k = applicable H ms k := by
  unfold applicable
  rw [List.filter_append, List.filter_eq_nil_iff (l := extra) |>.mpr (fun m hm => by simp [hx m hm]), List.append_nil]

/-- the entries of `ap` that `bt` every other entry of `ap` (`winners`, `winnersE` are instances) -/
def winnersWith (bt : Meth → Meth → Bool) (ap : List Meth) : List Meth :=
  ap.filter (fun m => ap.all (fun m' => m'.id == m.id || bt m m'))

/-- the rule over the comparison `bt`: the entry of `ap` that beats every other one runs, if there is exactly one -/
def resolveWith (bt : Meth → Meth → Bool) (ap : List Meth) : SpecRes :=
  match winnersWith bt ap with
  | [w] => .ran w.id
  | _ => if ap.isEmpty then .noMethod else .ambiguous

theorem specResolve_eq (H : Hier) (ms : List Meth) (k : Key) :
    specResolve H ms k = resolveWith (beats H k) (applicable H ms k) := rfl

section
variable {bt bt' : Meth → Meth → Bool} {ap ap' : List Meth}

theorem mem_winnersWith {m : Meth} :
    m ∈ winnersWith bt ap ↔ m ∈ ap ∧ ∀ m' ∈ ap, m'.id = m.id ∨ bt m m' = true := by
  simp only [winnersWith, List.mem_filter, List.all_eq_true, Bool.or_eq_true, beq_iff_eq]

theorem winners_mem (H : Hier) (ms : List Meth) (k : Key) (m : Meth) :
    m ∈ winners H ms k ↔ m ∈ applicable H ms k ∧
      ∀ m' ∈ applicable H ms k, m'.id = m.id ∨ beats H k m m' = true :=
  mem_winnersWith (bt := beats H k)

theorem resolveWith_unique (nd : ap.Nodup) {w : Meth} (hw : w ∈ ap)
    (win : ∀ m' ∈ ap, m'.id = w.id ∨ bt w m' = true)
    (uniq : ∀ m ∈ ap, (∀ m' ∈ ap, m'.id = m.id ∨ bt m m' = true) → m = w) :
    resolveWith bt ap = .ran w.id := by
  have : winnersWith bt ap = [w] :=
    singleton_of_nodup_all_eq _ (List.filter_sublist.nodup nd) w (mem_winnersWith.mpr ⟨hw, win⟩)
      fun m hm => uniq m (mem_winnersWith.mp hm).1 (mem_winnersWith.mp hm).2
  unfold resolveWith
  rw [this]

theorem resolveWith_no_winner (hne : ap ≠ [])
    (h : ∀ m ∈ ap, ¬ ∀ m' ∈ ap, m'.id = m.id ∨ bt m m' = true) : resolveWith bt ap = .ambiguous := by
  have : winnersWith bt ap = [] :=
    List.eq_nil_iff_forall_not_mem.mpr fun m hm => h m (mem_winnersWith.mp hm).1 (mem_winnersWith.mp hm).2
  unfold resolveWith
  rw [this, List.isEmpty_eq_false_iff.mpr hne]
  rfl

theorem resolveWith_perm (bt : Meth → Meth → Bool) (hp : ap'.Perm ap) :
    resolveWith bt ap' = resolveWith bt ap := by
  have hw : (winnersWith bt ap').Perm (winnersWith bt ap) := by
    unfold winnersWith
    rw [funext (fun m => hp.all_eq (f := fun m' => m'.id == m.id || bt m m'))]
    exact hp.filter _
  unfold resolveWith
  rw [hp.isEmpty_eq]
  -- permutations of `[]`, `[w]` and of a list of two or more have the same shape
  generalize winnersWith bt ap' = l' at hw
  generalize winnersWith bt ap = l at hw
  match l, hw with
  | [], hw => rw [hw.eq_nil]
  | [w], hw => rw [List.perm_singleton.mp hw]
  | _ :: _ :: _, hw =>
    match l', hw.length_eq with
    | _ :: _ :: _, _ => rfl

theorem resolveWith_congr (h : ∀ m ∈ ap, ∀ m' ∈ ap, bt m m' = bt' m m') :
    resolveWith bt ap = resolveWith bt' ap := by
  unfold resolveWith winnersWith
  rw [List.filter_congr (fun m hm => all_congr_mem ap _ _ (fun m' hm' => by rw [h m hm m' hm']))]

end

theorem tyAt_mem_params (m : Meth) (s : Slot) (t : Ty) (h : m.tyAt s = some t) : (s, t) ∈ m.params := by
  unfold Meth.tyAt at h
  split at h
  · rename_i p hp
    cases Option.some.inj h
    have e : p.1 = s := by simpa using List.find?_some hp
    exact e ▸ List.mem_of_find?_eq_some hp
  · cases h

theorem staticTable_cls {ms : List Meth} (hst : staticTable ms = true) {m : Meth} (hm : m ∈ ms) {p : Slot × Ty}
    (hp : p ∈ m.params) : ∃ c, p.2 = .cls c := by
  have h := List.all_eq_true.mp (List.all_eq_true.mp hst m hm) p hp
  cases hp2 : p.2 <;> simp [hp2, Ty.isCls] at h
  exact ⟨_, rfl⟩

theorem tyAt_cls {ms : List Meth} (hst : staticTable ms = true) {m : Meth} (hm : m ∈ ms) {s : Slot} {t : Ty}
    (h : m.tyAt s = some t) : ∃ c, t = .cls c :=
  staticTable_cls hst hm (tyAt_mem_params m s t h)

end Ovld

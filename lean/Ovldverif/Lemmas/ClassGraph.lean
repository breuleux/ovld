import Ovldverif.Lemmas.ClassStep
import Ovldverif.Props.C16
/-!
# Class bodies: from the abstract graph back to the graph of overloaded functions

On graphs on which nothing was ever compiled, locked or linked back (`Simple`), every well-formed operation is accepted
and acts as `AG.step` on `len` / `mx` / `ow`; then the invariant of the translation, class statement by class statement.
-/
set_option autoImplicit false
namespace Ovld

def Simple (g : Graph) : Prop :=
  ∀ k, (g.get k).compiled = false ∧ (g.get k).locked = false ∧ (g.get k).children = [] ∧ (g.get k).linkback = false

theorem Simple.empty : Simple {} := fun _ => ⟨rfl, rfl, rfl, rfl⟩

theorem Simple.update {g : Graph} (hs : Simple g) (n : Nat) : Graph.update g.depth g n = (g, none) :=
  Graph.update_leaf _ g n (hs n).1 (hs n).2.2.1

def Graph.abs (g : Graph) : AG := ⟨g.len, g.mx, g.ow⟩

theorem Graph.abs_empty : (({} : Graph)).abs = {} := rfl

theorem Graph.abs_set (g : Graph) {n : Nat} (hn : n < g.len) (x : Node) :
    (g.set n x).abs = { len := g.len, mx := upd g.mx n x.mixins, ow := upd g.ow n x.own } := by
  have h : ∀ {α : Type} (p : Node → α) (k : Nat), p ((g.set n x).get k) = upd (fun k => p (g.get k)) n (p x) k := by
    intro α p k
    rw [Graph.proj_set_at p]
    unfold upd
    by_cases hk : k = n
    · rw [if_pos ⟨hk, hn⟩, if_pos hk]
    · rw [if_neg (fun hh => hk hh.1), if_neg hk]
  exact AG.ext (Graph.len_set g n x) (funext (h Node.mixins)) (funext (h Node.own))

/-- `register` and `add_mixins` on a simple graph only replace the function `n` -/
theorem Simple.modify {g : Graph} (hs : Simple g) {n : Nat} (hn : n < g.len) (x : Node)
    (hx : x.compiled = false ∧ x.locked = false ∧ x.children = [] ∧ x.linkback = false) :
    Simple (g.modify n (g.set n x)).1 ∧
      (g.modify n (g.set n x)).1.abs = { len := g.len, mx := upd g.mx n x.mixins, ow := upd g.ow n x.own } ∧
      (g.modify n (g.set n x)).2 = none := by
  have hs1 : Simple (g.set n x) := by
    intro k; rw [Graph.get_set]; split
    · exact hx
    · exact hs k
  rw [Graph.modify_unlocked _ _ _ (hs n).2.1, hs1.update n]
  exact ⟨hs1, Graph.abs_set g hn x, rfl⟩

theorem Simple.register {g : Graph} (hs : Simple g) (n : Nat) (d : Def) (hn : n < g.len) :
    Simple (g.register n d).1 ∧ (g.register n d).1.abs = g.abs.step (.register n d) ∧ (g.register n d).2 = none := by
  obtain ⟨h1, h2, h3⟩ := hs.modify hn { g.get n with own := setDefn ((g.get n).own.length + 1) (g.get n).own d 0 } (hs n)
  rw [Graph.register_eq]
  exact ⟨h1, h2.trans (AG.ext rfl (upd_self g.mx n) rfl), h3⟩

theorem Simple.addMixins {g : Graph} (hs : Simple g) (n : Nat) (ms : List Nat) (hn : n < g.len)
    (hms : ∀ m ∈ ms, m ≠ n) :
    Simple (g.addMixins n ms).1 ∧ (g.addMixins n ms).1.abs = g.abs.step (.addMixins n ms) ∧
      (g.addMixins n ms).2 = none := by
  obtain ⟨h1, h2, h3⟩ := hs.modify hn { g.get n with mixins := (g.get n).mixins ++ ms } (hs n)
  rw [Graph.addMixins_eq, List.filter_eq_self.mpr (fun m hm => bne_iff_ne.mpr (hms m hm))]
  unfold Graph.addEdges
  rw [if_neg (by rw [(hs n).2.2.2]; exact Bool.false_ne_true)]
  exact ⟨h1, h2.trans (AG.ext rfl rfl (upd_self g.ow n)), h3⟩

/-- `create` (without linkback): a new function without mixins, then `add_mixins` -/
theorem Simple.create {g : Graph} (hs : Simple g) (ms : List Nat) (hms : ∀ m ∈ ms, m < g.len) :
    Simple (g.create ms false) ∧ (g.create ms false).abs = g.abs.step (.create ms false) := by
  have hget := Graph.get_append g { linkback := false }
  have habs : (Graph.mk (g.nodes ++ [{ linkback := false }])).abs = { g.abs with len := g.len + 1 } :=
    AG.ext List.length_append (Graph.proj_append Node.mixins g _) (Graph.proj_append Node.own g _)
  rw [Graph.create_eq]
  generalize Graph.mk (g.nodes ++ [{ linkback := false }]) = g0 at hget habs ⊢
  have hs0 : Simple g0 := by
    intro k; rw [hget k]; split
    · exact ⟨rfl, rfl, rfl, rfl⟩
    · exact hs k
  obtain ⟨h1, h2, _⟩ := hs0.addMixins g.len ms (Nat.lt_of_lt_of_eq (Nat.lt_succ_self _) (congrArg AG.len habs).symm)
    (fun m hm => Nat.ne_of_lt (hms m hm))
  refine ⟨h1, h2.trans ?_⟩
  rw [habs]
  show AG.mk (g.len + 1) (upd g.mx g.len (g.mx g.len ++ ms)) g.ow = AG.mk (g.len + 1) (upd g.mx g.len ms) g.ow
  rw [(Graph.proj_of_ge g _ (Nat.le_refl _)).1]; rfl

theorem Graph.opOK_of_ok {g : Graph} {op : GOp} (hok : g.abs.ok op) : g.opOK op = true := by
  cases op with
  | create ms lb => exact Graph.opOK_create.mpr hok.2
  | addMixins n ms =>
    refine Graph.opOK_addMixins.mpr ⟨hok.1, fun m hm => ⟨⟨(hok.2 m hm).1, (hok.2 m hm).2.1⟩, ?_⟩⟩
    -- `isAnc` is sound without any invariant
    cases hanc : g.isAnc n m
    · rfl
    · unfold Graph.isAnc at hanc
      rw [Graph.derives_eq] at hanc
      exact absurd (ancB_sound _ _ _ _ hanc) (hok.2 m hm).2.2
  | register n d => exact Graph.opOK_register.mpr hok
  | unregister n id => exact hok.elim
  | call n c => exact hok.elim

theorem Simple.step (cfg : Cfg) {g : Graph} (hs : Simple g) (op : GOp) (hok : g.abs.ok op) :
    Simple (g.step cfg op).1 ∧ (g.step cfg op).1.abs = g.abs.step op ∧ g.opOK op = true ∧
      (g.step cfg op).2 = none := by
  have h3 := Graph.opOK_of_ok hok
  cases op with
  | create ms lb =>
    obtain ⟨rfl, hms⟩ := hok
    exact ⟨(hs.create ms hms).1, (hs.create ms hms).2, h3, rfl⟩
  | addMixins n ms =>
    obtain ⟨h1, h2, h4⟩ := hs.addMixins n ms hok.1 (fun m hm => (hok.2 m hm).2.1)
    exact ⟨h1, h2, h3, h4⟩
  | register n d =>
    obtain ⟨h1, h2, h4⟩ := hs.register n d hok
    exact ⟨h1, h2, h3, h4⟩
  | unregister n id => exact hok.elim
  | call n c => exact hok.elim

theorem Simple.runOps (cfg : Cfg) (ops : List GOp) : ∀ (g : Graph), Simple g → g.abs.oks ops →
    Simple (Graph.runOps cfg g ops) ∧ (Graph.runOps cfg g ops).abs = g.abs.run ops ∧
      Graph.opsOK cfg g ops = true := by
  induction ops with
  | nil => intro g hs _; exact ⟨hs, rfl, rfl⟩
  | cons op rest ih =>
    intro g hs hok
    obtain ⟨h1, h2, h3, h4⟩ := hs.step cfg op hok.1
    obtain ⟨i1, i2, i3⟩ := ih (g.step cfg op).1 h1 (by rw [h2]; exact hok.2)
    refine ⟨i1, ?_, ?_⟩
    · show (Graph.runOps cfg (g.step cfg op).1 rest).abs = _
      rw [i2, h2]; rfl
    · exact Bool.and_eq_true_iff.2 ⟨Bool.and_eq_true_iff.2 ⟨h3, by rw [h4]; rfl⟩, i3⟩

namespace ClassBody

theorem snap_graph (cfg : Cfg) {st : TState} {a : AG} (hs : Snap st a) :
    Simple (Graph.runOps cfg {} st.ops) ∧ (Graph.runOps cfg {} st.ops).abs = a ∧
    Graph.opsOK cfg {} st.ops = true ∧ Inv (Graph.runOps cfg {} st.ops) := by
  obtain ⟨h1, h2, h3⟩ := Simple.runOps cfg st.ops {} Simple.empty (by rw [Graph.abs_empty]; exact hs.oks)
  rw [Graph.abs_empty, hs.run] at h2
  exact ⟨h1, h2, h3, Graph.inv_runOps cfg st.ops {} Inv.empty h3⟩

theorem Snap.sol (cfg : Cfg) {st : TState} {a : AG} (hs : Snap st a) : Sol a (Graph.runOps cfg {} st.ops).dd := by
  obtain ⟨_, rfl, _, hi⟩ := snap_graph cfg hs
  exact fun n _ => hi.defns_unfold n

theorem Snap.dd_old (cfg : Cfg) {st st' : TState} {a a' : AG} (hs : Snap st a) (hs' : Snap st' a')
    (hg : a.Grows a.len a') (m : Nat) (hm : m < a.len) :
    (Graph.runOps cfg {} st'.ops).dd m = (Graph.runOps cfg {} st.ops).dd m := by
  obtain ⟨_, rfl, _, hi⟩ := snap_graph cfg hs
  obtain ⟨_, rfl, _, _⟩ := snap_graph cfg hs'
  exact hi.defns_old (fun k hk => hg.2 k hk (Nat.ne_of_lt hk)) hg.1 m hm

theorem translate_snoc (ks : List ClassDecl) (k : ClassDecl) : translate (ks ++ [k]) = classStep (translate ks) k := by
  simp [translate, List.foldl_append]

theorem effAll_snoc (ks : List ClassDecl) (k : ClassDecl) : effAll (ks ++ [k]) = effStep (effAll ks) k := by
  simp [effAll, List.foldl_append]

/-- after the class statements `ks`: the operations were well-formed, every class holds what `effAll` documents, `hasF`
    agrees, and there is one attribute per class (for the `take` in `C17_bases_untouched`) -/
def MainInv (cfg : Cfg) (ks : List ClassDecl) : Prop :=
  ∃ a, Snap (translate ks) a ∧
    All2 (RelAE a.len (Graph.runOps cfg {} (translate ks).ops).dd) (translate ks).attr (effAll ks) ∧
    (translate ks).hasF = (effAll ks).map (·.hasF) ∧ (translate ks).attr.length = ks.length

theorem MainInv.step (cfg : Cfg) (ks : List ClassDecl) (k : ClassDecl) (h : MainInv cfg ks) :
    MainInv cfg (ks ++ [k]) ∧
    (translate (ks ++ [k])).attr.take ks.length = (translate ks).attr ∧
    ∀ m, m < (translate ks).nn →
      (Graph.runOps cfg {} (translate (ks ++ [k])).ops).dd m = (Graph.runOps cfg {} (translate ks).ops).dd m := by
  obtain ⟨a, hs, hag, hf, hlen⟩ := h
  obtain ⟨e, he, a', x, hs', hg, hat, hhf, hrel⟩ := classStep_spec k hs hag hf
  have hold := Snap.dd_old cfg hs hs' hg
  unfold MainInv
  rw [translate_snoc, effAll_snoc, he]
  refine ⟨⟨a', hs', ?_, ?_, ?_⟩, ?_, ?_⟩
  · rw [hat]
    exact (hag.imp (fun _ _ hr => hr.mono hg.1 hold)).append (All2.cons (hrel _ (hs'.sol cfg) hold) All2.nil)
  · rw [hhf, hf]; simp
  · rw [hat]; simp [hlen]
  · rw [hat, ← hlen]; simp
  · exact fun m hm => hold m (hs.len ▸ hm)

theorem mainInv (cfg : Cfg) : ∀ ks, MainInv cfg ks :=
  list_snoc_induction ⟨{}, Snap.empty, All2.nil, rfl, rfl⟩ (fun ks k h => (MainInv.step cfg ks k h).1)

end ClassBody
end Ovld

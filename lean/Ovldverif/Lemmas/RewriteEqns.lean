import Ovldverif.Model.Rewrite
/-!
# The equations of `eval` and `rw` (Model/Rewrite.lean), in constructor order

The equations are `rfl` or proved from a `show` of the model's `match`: unfolding these mutual definitions by
`simp only [eval]` would make Lean generate their equation lemmas anew in every module.
-/
set_option autoImplicit false
namespace Ovld.Rw

theorem setVar_same (ρ : Env) (x : Name) (v : Val) : setVar ρ x v x = some v := if_pos rfl
theorem setVar_ne {x y : Name} (h : y ≠ x) (ρ : Env) (v : Val) : setVar ρ x v y = ρ y := if_neg h

/-- sequencing in `eval`: an exception ends the chain -/
def bindR {α β : Type} : Except Exn α × Env × Log → (α → Env → Log → Except Exn β × Env × Log) →
    Except Exn β × Env × Log
  | (.ok v, ρ, l), K => K v ρ l
  | (.error e, ρ, l), _ => (.error e, ρ, l)

section
variable {α β : Type} (K : α → Env → Log → Except Exn β × Env × Log)

theorem bindR_ok (v : α) (ρ : Env) (l : Log) : bindR (.ok v, ρ, l) K = K v ρ l := rfl
theorem bindR_error (e : Exn) (ρ : Env) (l : Log) : bindR (.error e, ρ, l) K = (.error e, ρ, l) := rfl
theorem bindR_bindR {γ : Type} (o : Except Exn α × Env × Log) (K' : β → Env → Log → Except Exn γ × Env × Log) :
    bindR (bindR o K) K' = bindR o fun v ρ l => bindR (K v ρ l) K' := by
  rcases o with ⟨_ | _, _, _⟩ <;> rfl
end

section
variable (W : World) (ρ : Env) (l : Log)

theorem eval_lit (n : Int) : eval W (.lit n) ρ l = (.ok (.int n), ρ, l) := rfl
theorem eval_var (x : Name) :
    eval W (.var x) ρ l = (match ρ x with | some v => .ok v | none => .error (.unbound x), ρ, l) := by
  show (match ρ x with | some v => _ | none => _) = _
  cases ρ x <;> rfl
theorem eval_glob (x : String) :
    eval W (.glob x) ρ l = (match W.globals x with | some v => .ok v | none => .error (.nameError x), ρ, l) := by
  show (match W.globals x with | some v => _ | none => _) = _
  cases W.globals x <;> rfl
theorem eval_named (x : Name) (e : Expr) :
    eval W (.named x e) ρ l = bindR (eval W e ρ l) fun v ρ' l' => (.ok v, setVar ρ' x v, l') := by
  show (match eval W e ρ l with | (.ok v, ρ', l') => _ | r => r) = _
  rcases eval W e ρ l with ⟨_ | _, _, _⟩ <;> rfl
theorem eval_tick (t : String) (e : Expr) :
    eval W (.tick t e) ρ l = bindR (eval W e ρ l) fun v ρ' l' => (.ok v, ρ', l' ++ [t]) := by
  show (match eval W e ρ l with | (.ok v, ρ', l') => _ | r => r) = _
  rcases eval W e ρ l with ⟨_ | _, _, _⟩ <;> rfl
theorem eval_add (a b : Expr) :
    eval W (.add a b) ρ l = bindR (eval W a ρ l) fun va ρ' l' =>
      match va with
      | .int x => bindR (eval W b ρ' l') fun vb ρ'' l'' =>
          (match vb with | .int y => .ok (.int (x + y)) | _ => .error .typeError, ρ'', l'')
      | _ => (.error .typeError, ρ', l') := by
  show (match eval W a ρ l with | (.ok (.int x), ρ', l') => _ | (.ok _, ρ', l') => _ | r => r) = _
  rcases eval W a ρ l with ⟨_ | va, ρ', l'⟩
  · rfl
  · cases va <;> try rfl
    simp only [bindR_ok]
    rcases eval W b ρ' l' with ⟨_ | vb, _, _⟩
    · rfl
    · cases vb <;> rfl
theorem eval_ite (c a b : Expr) :
    eval W (.ite c a b) ρ l = bindR (eval W c ρ l) fun v ρ' l' =>
      match v with | .int 0 => eval W b ρ' l' | _ => eval W a ρ' l' := by
  show (match eval W c ρ l with | (.ok (.int 0), ρ', l') => _ | (.ok _, ρ', l') => _ | r => r) = _
  rcases eval W c ρ l with ⟨_ | (((_ | _) | _) | _), _, _⟩ <;> rfl
theorem eval_call (f : Expr) (args : List Expr) (kws : List (String × Expr)) :
    eval W (.call f args kws) ρ l = bindR (eval W f ρ l) fun fv ρ1 l1 => bindR (evalList W args ρ1 l1) fun avs ρ2 l2 =>
      bindR (evalKws W kws ρ2 l2) fun kvs ρ3 l3 => ((applyVal W fv avs kvs l3).1, ρ3, (applyVal W fv avs kvs l3).2) := by
  show (match eval W f ρ l with | (.ok fv, ρ1, l1) => _ | (.error e, ρ1, l1) => _) = _
  rcases eval W f ρ l with ⟨_ | _, ρ1, l1⟩
  · rfl
  · simp only [bindR_ok]
    rcases evalList W args ρ1 l1 with ⟨_ | _, ρ2, l2⟩
    · rfl
    · simp only [bindR_ok]
      rcases evalKws W kws ρ2 l2 with ⟨_ | _, _, _⟩ <;> rfl
theorem eval_tuple (es : List Expr) :
    eval W (.tuple es) ρ l = bindR (evalList W es ρ l) fun vs ρ' l' =>
      (match vs.mapM toKeyElt with | some ks => .ok (.key ks) | none => .error .typeError, ρ', l') := by
  show (match evalList W es ρ l with | (.ok vs, ρ', l') => _ | (.error e, ρ', l') => _) = _
  rcases evalList W es ρ l with ⟨_ | vs, _, _⟩
  · rfl
  · simp only [bindR_ok]; cases vs.mapM toKeyElt <;> rfl
theorem eval_pair (n : String) (e : Expr) :
    eval W (.pair n e) ρ l = bindR (eval W e ρ l) fun v ρ' l' =>
      (match v with | .ty c => .ok (.kwTy n c) | _ => .error .typeError, ρ', l') := by
  show (match eval W e ρ l with | (.ok (.ty c), ρ', l') => _ | (.ok _, ρ', l') => _ | r => r) = _
  rcases eval W e ρ l with ⟨_ | v, _, _⟩
  · rfl
  · cases v <;> rfl
theorem eval_subscript (e i : Expr) :
    eval W (.subscript e i) ρ l = bindR (eval W e ρ l) fun ev ρ1 l1 => bindR (eval W i ρ1 l1) fun iv ρ2 l2 =>
      match ev, iv with
      | .g .mapObj, .key ks => (match W.lookup ks with | .ok h => (.ok (.fn h), ρ2, l2) | .error e => (.error e, ρ2, l2))
      | _, _ => (.error .typeError, ρ2, l2) := by
  show (match eval W e ρ l with | (.ok ev, ρ1, l1) => _ | r => r) = _
  rcases eval W e ρ l with ⟨_ | ev, ρ1, l1⟩
  · rfl
  · simp only [bindR_ok]
    rcases eval W i ρ1 l1 with ⟨_ | iv, _, _⟩ <;> rfl
theorem evalList_cons (e : Expr) (es : List Expr) :
    evalList W (e :: es) ρ l = bindR (eval W e ρ l) fun v ρ' l' => bindR (evalList W es ρ' l') fun vs ρ'' l'' =>
      (.ok (v :: vs), ρ'', l'') := by
  show (match eval W e ρ l with | (.ok v, ρ', l') => _ | (.error e, ρ', l') => _) = _
  rcases eval W e ρ l with ⟨_ | _, ρ', l'⟩
  · rfl
  · simp only [bindR_ok]; rcases evalList W es ρ' l' with ⟨_ | _, _, _⟩ <;> rfl
theorem evalKws_cons (n : String) (e : Expr) (es : List (String × Expr)) :
    evalKws W ((n, e) :: es) ρ l = bindR (eval W e ρ l) fun v ρ' l' => bindR (evalKws W es ρ' l') fun vs ρ'' l'' =>
      (.ok ((n, v) :: vs), ρ'', l'') := by
  show (match eval W e ρ l with | (.ok v, ρ', l') => _ | (.error e, ρ', l') => _) = _
  rcases eval W e ρ l with ⟨_ | _, ρ', l'⟩
  · rfl
  · simp only [bindR_ok]; rcases evalKws W es ρ' l' with ⟨_ | _, _, _⟩ <;> rfl
end

theorem eval_glob_some (W : World) {g : String} {v : Val} (h : W.globals g = some v) (ρ : Env) (l : Log) :
    eval W (.glob g) ρ l = (.ok v, ρ, l) := by
  rw [eval_glob, h]

theorem evalList_append (W : World) : ∀ (xs ys : List Expr) (ρ : Env) (l : Log),
    evalList W (xs ++ ys) ρ l = bindR (evalList W xs ρ l) fun vs ρ' l' => bindR (evalList W ys ρ' l') fun ws ρ'' l'' =>
      (.ok (vs ++ ws), ρ'', l'')
  | [], ys, ρ, l => by
    show evalList W ys ρ l = bindR (evalList W ys ρ l) fun ws ρ'' l'' => (.ok ([] ++ ws), ρ'', l'')
    rcases evalList W ys ρ l with ⟨_ | _, _, _⟩ <;> rfl
  | x :: xs, ys, ρ, l => by
    simp only [List.cons_append, evalList_cons, bindR_bindR, evalList_append W xs ys]
    rfl

theorem rw_lit (n : Int) (k : Nat) : rw (.lit n) k = (.lit n, k) := rfl
theorem rw_var (x : Name) (k : Nat) : rw (.var x) k = (.var x, k) := rfl
theorem rw_glob (x : String) (k : Nat) : rw (.glob x) k = (.glob x, k) := rfl
theorem rw_named (x : Name) (e : Expr) (k : Nat) : rw (.named x e) k = (.named x (rw e k).1, (rw e k).2) := rfl
theorem rw_tick (t : String) (e : Expr) (k : Nat) : rw (.tick t e) k = (.tick t (rw e k).1, (rw e k).2) := rfl
theorem rw_add (a b : Expr) (k : Nat) : rw (.add a b) k = (.add (rw a k).1 (rw b (rw a k).2).1, (rw b (rw a k).2).2) := rfl
theorem rw_ite (c a b : Expr) (k : Nat) :
    rw (.ite c a b) k = (.ite (rw c k).1 (rw a (rw c k).2).1 (rw b (rw a (rw c k).2).2).1, (rw b (rw a (rw c k).2).2).2) := rfl
theorem rw_call_recurse (args : List Expr) (kws : List (String × Expr)) (k : Nat) :
    rw (.call (.glob "recurse") args kws) k =
      ((.call (.subscript (.glob "MAP") (.tuple ((rwArgs args k 0 (k + 1)).1 ++ (rwKws kws k (rwArgs args k 0 (k + 1)).2).1)))
          (tmpVars k 0 args) (tmpKws k kws)), (rwKws kws k (rwArgs args k 0 (k + 1)).2).2) := rfl
theorem rw_call_next (args : List Expr) (kws : List (String × Expr)) (k : Nat) :
    rw (.call (.glob "call_next") args kws) k =
      ((.call (.subscript (.glob "MAP") (.tuple (.glob "CODE" :: ((rwArgs args k 0 (k + 1)).1 ++ (rwKws kws k (rwArgs args k 0 (k + 1)).2).1))))
          (tmpVars k 0 args) (tmpKws k kws)), (rwKws kws k (rwArgs args k 0 (k + 1)).2).2) := rfl
theorem rw_call (f : Expr) (args : List Expr) (kws : List (String × Expr)) (k : Nat)
    (h1 : f ≠ .glob "recurse") (h2 : f ≠ .glob "call_next") :
    rw (.call f args kws) k =
      (.call (rw f k).1 (rwList args (rw f k).2).1 (rwKwList kws (rwList args (rw f k).2).2).1,
       (rwKwList kws (rwList args (rw f k).2).2).2) := by
  show (match f with | .glob "recurse" => _ | .glob "call_next" => _ | _ => _) = _
  split
  · exact absurd rfl h1
  · exact absurd rfl h2
  · rfl
theorem rw_tuple (es : List Expr) (k : Nat) : rw (.tuple es) k = (.tuple (rwList es k).1, (rwList es k).2) := rfl
theorem rw_pair (n : String) (e : Expr) (k : Nat) : rw (.pair n e) k = (.pair n (rw e k).1, (rw e k).2) := rfl
theorem rw_subscript (a b : Expr) (k : Nat) :
    rw (.subscript a b) k = (.subscript (rw a k).1 (rw b (rw a k).2).1, (rw b (rw a k).2).2) := rfl
theorem rwList_cons (e : Expr) (es : List Expr) (c : Nat) :
    rwList (e :: es) c = ((rw e c).1 :: (rwList es (rw e c).2).1, (rwList es (rw e c).2).2) := rfl
theorem rwKwList_cons (n : String) (e : Expr) (es : List (String × Expr)) (c : Nat) :
    rwKwList ((n, e) :: es) c = ((n, (rw e c).1) :: (rwKwList es (rw e c).2).1, (rwKwList es (rw e c).2).2) := rfl
theorem rwArgs_cons (a : Expr) (as : List Expr) (k i c : Nat) :
    rwArgs (a :: as) k i c =
      (typeCall (.tmp k (.pos i)) (rw a c).1 :: (rwArgs as k (i + 1) (rw a c).2).1, (rwArgs as k (i + 1) (rw a c).2).2) := rfl
theorem rwKws_cons (n : String) (e : Expr) (es : List (String × Expr)) (k c : Nat) :
    rwKws ((n, e) :: es) k c =
      (.pair n (typeCall (.tmp k (.kw n)) (rw e c).1) :: (rwKws es k (rw e c).2).1, (rwKws es k (rw e c).2).2) := rfl

theorem not_isRecName {f : Expr} (h : isRecName f = false) : f ≠ .glob "recurse" ∧ f ≠ .glob "call_next" :=
  ⟨fun e => by subst e; exact absurd h (by decide), fun e => by subst e; exact absurd h (by decide)⟩

mutual
theorem rw_le : ∀ (e : Expr) (k : Nat), k ≤ (rw e k).2
  | .lit _, k | .var _, k | .glob _, k => Nat.le_refl k
  | .named _ e, k | .tick _ e, k | .pair _ e, k => rw_le e k
  | .add a b, k | .subscript a b, k => Nat.le_trans (rw_le a k) (rw_le b _)
  | .ite c a b, k => Nat.le_trans (rw_le c k) (Nat.le_trans (rw_le a _) (rw_le b _))
  | .tuple es, k => rwList_le es k
  | .call f args kws, k => by
    have site := Nat.le_trans (Nat.le_succ k) (Nat.le_trans (rwArgs_le args k 0 (k + 1)) (rwKws_le kws k _))
    by_cases h1 : f = .glob "recurse"
    · subst h1; rw [rw_call_recurse]; exact site
    by_cases h2 : f = .glob "call_next"
    · subst h2; rw [rw_call_next]; exact site
    · rw [rw_call f args kws k h1 h2]
      exact Nat.le_trans (rw_le f k) (Nat.le_trans (rwList_le args _) (rwKwList_le kws _))
theorem rwList_le : ∀ (es : List Expr) (k : Nat), k ≤ (rwList es k).2
  | [], k => Nat.le_refl k
  | e :: es, k => Nat.le_trans (rw_le e k) (rwList_le es _)
theorem rwKwList_le : ∀ (es : List (String × Expr)) (k : Nat), k ≤ (rwKwList es k).2
  | [], k => Nat.le_refl k
  | (_, e) :: es, k => Nat.le_trans (rw_le e k) (rwKwList_le es _)
theorem rwArgs_le : ∀ (es : List Expr) (k i c : Nat), c ≤ (rwArgs es k i c).2
  | [], _, _, c => Nat.le_refl c
  | e :: es, k, i, c => Nat.le_trans (rw_le e c) (rwArgs_le es k (i + 1) _)
theorem rwKws_le : ∀ (es : List (String × Expr)) (k c : Nat), c ≤ (rwKws es k c).2
  | [], _, c => Nat.le_refl c
  | (_, e) :: es, k, c => Nat.le_trans (rw_le e c) (rwKws_le es k _)
end

theorem Expr.induction {P : Expr → Prop}
    (lit : ∀ n, P (.lit n)) (var : ∀ x, P (.var x)) (glob : ∀ x, P (.glob x))
    (named : ∀ x e, P e → P (.named x e)) (tick : ∀ t e, P e → P (.tick t e))
    (add : ∀ a b, P a → P b → P (.add a b)) (ite : ∀ c a b, P c → P a → P b → P (.ite c a b))
    (call : ∀ f args kws, P f → (∀ e ∈ args, P e) → (∀ p ∈ kws, P p.2) → P (.call f args kws))
    (tuple : ∀ es, (∀ e ∈ es, P e) → P (.tuple es)) (pair : ∀ n e, P e → P (.pair n e))
    (subscript : ∀ e i, P e → P i → P (.subscript e i)) : ∀ e, P e :=
  Expr.rec (motive_1 := P) (motive_2 := fun es => ∀ e ∈ es, P e) (motive_3 := fun kws => ∀ p ∈ kws, P p.2)
    (motive_4 := fun p => P p.2) lit var glob named tick add ite call tuple pair subscript
    (fun _ h => nomatch h) (fun _ _ hh ht _ h => (List.mem_cons.1 h).elim (· ▸ hh) (ht _))
    (fun _ h => nomatch h) (fun _ _ hh ht _ h => (List.mem_cons.1 h).elim (· ▸ hh) (ht _))
    (fun _ _ h => h)

end Ovld.Rw

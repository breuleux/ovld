/-!
# `All2 R xs ys`: the lists `xs` and `ys` are related element by element
-/
set_option autoImplicit false
namespace Ovld

inductive All2 {α β : Type} (R : α → β → Prop) : List α → List β → Prop
  | nil : All2 R [] []
  | cons {x : α} {y : β} {xs : List α} {ys : List β} : R x y → All2 R xs ys → All2 R (x :: xs) (y :: ys)

section
variable {α β : Type} {R : α → β → Prop} {xs : List α} {ys : List β}

theorem All2.imp {S : α → β → Prop} (h : ∀ x y, R x y → S x y) (hr : All2 R xs ys) : All2 S xs ys := by
  induction hr with
  | nil => exact All2.nil
  | cons h1 _ ih => exact All2.cons (h _ _ h1) ih

theorem All2.append {xs' : List α} {ys' : List β} (h1 : All2 R xs ys) (h2 : All2 R xs' ys') :
    All2 R (xs ++ xs') (ys ++ ys') := by
  induction h1 with
  | nil => exact h2
  | cons h _ ih => exact All2.cons h ih

theorem All2.getD (h : All2 R xs ys) {dx : α} {dy : β} (hd : R dx dy) (i : Nat) :
    R (xs[i]?.getD dx) (ys[i]?.getD dy) := by
  induction h generalizing i with
  | nil => exact hd
  | cons h1 _ ih =>
    cases i with
    | zero => exact h1
    | succ i => exact ih i

theorem All2.get (h : All2 R xs ys) (i : Nat) (x : α) (hx : xs[i]? = some x) : ∃ y, ys[i]? = some y ∧ R x y := by
  induction h generalizing i with
  | nil => cases hx
  | cons h1 _ ih =>
    cases i with
    | zero => cases hx; exact ⟨_, rfl, h1⟩
    | succ i => exact ih i hx

theorem All2.left (h : All2 R xs ys) : ∀ x ∈ xs, ∃ y, y ∈ ys ∧ R x y := by
  induction h with
  | nil => intro x hx; cases hx
  | cons h1 _ ih =>
    intro x hx
    rcases List.mem_cons.mp hx with rfl | hx
    · exact ⟨_, List.mem_cons_self, h1⟩
    · obtain ⟨y, hy, hr⟩ := ih x hx
      exact ⟨y, List.mem_cons_of_mem _ hy, hr⟩

theorem All2.map {γ δ : Type} {S : γ → δ → Prop} {f : α → γ} {g : β → δ}
    (hfg : ∀ x y, R x y → S (f x) (g y)) (h : All2 R xs ys) : All2 S (xs.map f) (ys.map g) := by
  induction h with
  | nil => exact All2.nil
  | cons h1 _ ih => exact All2.cons (hfg _ _ h1) ih

theorem All2.map_getD (h : All2 R xs ys) {dx : α} {dy : β} (hd : R dx dy) (is : List Nat) :
    All2 R (is.map (fun i => xs[i]?.getD dx)) (is.map (fun i => ys[i]?.getD dy)) := by
  induction is with
  | nil => exact All2.nil
  | cons i is ih => exact All2.cons (h.getD hd i) ih

theorem All2.isEmpty_eq (h : All2 R xs ys) : xs.isEmpty = ys.isEmpty := by
  cases h <;> rfl

theorem All2.filterMap_filter {γ : Type} {S : γ → β → Prop} {f : α → Option γ} {q : β → Bool}
    (hfq : ∀ x y, R x y → (∀ z, f x = some z → q y = true ∧ S z y) ∧ (f x = none → q y = false))
    (h : All2 R xs ys) : All2 S (xs.filterMap f) (ys.filter q) := by
  induction h with
  | nil => exact All2.nil
  | @cons x y _ _ h1 _ ih =>
    obtain ⟨hs, hn⟩ := hfq x y h1
    rw [List.filterMap_cons, List.filter_cons]
    cases hf : f x with
    | none => rw [if_neg (by rw [hn hf]; exact Bool.false_ne_true)]; exact ih
    | some z => rw [if_pos (hs z hf).1]; exact All2.cons (hs z hf).2 ih

theorem All2.filter {p : α → Bool} {q : β → Bool} (hpq : ∀ x y, R x y → p x = q y) (h : All2 R xs ys) :
    All2 R (xs.filter p) (ys.filter q) := by
  induction h with
  | nil => exact All2.nil
  | @cons x y _ _ h1 _ ih =>
    rw [List.filter_cons, List.filter_cons, hpq x y h1]
    split
    · exact All2.cons h1 ih
    · exact ih

theorem All2.filterMap_eq {γ : Type} {f : α → Option γ} {g : β → Option γ}
    (hfg : ∀ x y, R x y → f x = g y) (h : All2 R xs ys) : xs.filterMap f = ys.filterMap g := by
  induction h with
  | nil => rfl
  | @cons x y _ _ h1 _ ih => rw [List.filterMap_cons, List.filterMap_cons, hfg x y h1, ih]

theorem All2.map_eq {f : α → β} (h : All2 R xs ys) (hf : ∀ x y, R x y → f x = y) : xs.map f = ys := by
  induction h with
  | nil => rfl
  | cons h1 _ ih => rw [List.map_cons, hf _ _ h1, ih]

end

theorem All2.length_eq {α β : Type} {R : α → β → Prop} {xs : List α} {ys : List β} (h : All2 R xs ys) :
    xs.length = ys.length := by
  induction h with
  | nil => rfl
  | cons _ _ ih => simp [ih]

end Ovld

import Ovldverif.Lemmas.GraphBasic
import Ovldverif.Lemmas.GraphTopo
/-!
# What `defns` reads; the operations of the graph unfolded

Holds for arbitrary graphs.
-/
set_option autoImplicit false
namespace Ovld

theorem Graph.defns_fuel (g : Graph) {L : Nat} {rk : Nat → Nat} (hr : Ranked L g.mx rk) :
    ∀ (f1 f2 n : Nat), rk n < f1 → rk n < f2 → g.defns f1 n = g.defns f2 n
  | 0, _, _, h, _ => by omega
  | _ + 1, 0, _, _, h => by omega
  | f1 + 1, f2 + 1, n, h1, h2 => by
    rw [Graph.defns_succ, Graph.defns_succ]
    congr 1
    refine foldl_congr_mem _ _ _ (fun a m hm => ?_) _
    have := (hr.2 _ _ hm).2.2
    rw [Graph.defns_fuel g hr f1 f2 m (by omega) (by omega)]

/-- `ancB` at the fuel of `defns` instead of `Anc`: no acyclicity needed (C16 isolation on arbitrary graphs) -/
theorem Graph.defns_isolated (g g' : Graph) (n : Nat) (hmx : ∀ k, k ≠ n → g'.mx k = g.mx k)
    (how : ∀ k, k ≠ n → g'.ow k = g.ow k) :
    ∀ (f m : Nat), m ≠ n → ancB g.mx f n m = false → g'.defns f m = g.defns f m
  | 0, _, _, _ => rfl
  | f + 1, m, hm, h => by
    rw [Graph.defns_succ, Graph.defns_succ, hmx m hm, how m hm]
    congr 1
    refine foldl_congr_mem _ _ _ (fun a p hp => ?_) _
    simp only [ancB, List.any_eq_false, Bool.or_eq_true, beq_iff_eq, not_or] at h
    have := h p hp
    rw [Graph.defns_isolated g g' n hmx how f p this.1 (by simpa using this.2)]

/-- `g2` is `g` with the own definitions of `n` changed, the mixins `ms` appended to `n`, and `n` appended to
    the children of the nodes `cs` -/
structure Edit (g g2 : Graph) (n : Nat) (ms cs : List Nat) : Prop where
  len : g2.len = g.len
  mx_n : g2.mx n = g.mx n ++ ms
  mx_ne : ∀ k, k ≠ n → g2.mx k = g.mx k
  ch : ∀ k c, c ∈ g2.ch k ↔ (c ∈ g.ch k ∨ (c = n ∧ k ∈ cs))
  ow_ne : ∀ k, k ≠ n → g2.ow k = g.ow k
  lk : g2.lk = g.lk
  tb : g2.tb = g.tb

theorem Edit.refl (g : Graph) (n : Nat) : Edit g g n [] [] :=
  ⟨rfl, (List.append_nil _).symm, fun _ _ => rfl, by simp, fun _ _ => rfl, rfl, rfl⟩

theorem Edit.trans {a b c : Graph} {n : Nat} {ms1 ms2 cs1 cs2 : List Nat} (h1 : Edit a b n ms1 cs1)
    (h2 : Edit b c n ms2 cs2) : Edit a c n (ms1 ++ ms2) (cs1 ++ cs2) :=
  ⟨h2.len.trans h1.len, by rw [h2.mx_n, h1.mx_n, List.append_assoc],
    fun k hk => (h2.mx_ne k hk).trans (h1.mx_ne k hk),
    fun k x => by rw [h2.ch, h1.ch, List.mem_append, or_assoc, and_or_left],
    fun k hk => (h2.ow_ne k hk).trans (h1.ow_ne k hk), h2.lk.trans h1.lk, h2.tb.trans h1.tb⟩

section
variable {g g1 : Graph} {n : Nat} {ms cs : List Nat} (he : Edit g g1 n ms cs)
include he

theorem Edit.mx_sub (k m : Nat) (hm : m ∈ g.mx k) : m ∈ g1.mx k := by
  by_cases hk : k = n
  · subst hk; rw [he.mx_n]; exact List.mem_append_left _ hm
  · rw [he.mx_ne k hk]; exact hm

theorem Edit.ch_sub (k c : Nat) (hc : c ∈ g.ch k) : c ∈ g1.ch k := (he.ch k c).mpr (Or.inl hc)

theorem Edit.topo {ord : List Nat} (ht : Topo g.len g.mx ord) (hn : n < g.len)
    (hms : ∀ m ∈ ms, m < g.len ∧ m ≠ n ∧ ¬ Anc g.mx n m) : ∃ ord', Topo g1.len g1.mx ord' := by
  rw [he.len]
  refine ht.addMixins n hn ms hms g1.mx (fun k m hm => ?_)
  by_cases hk : k = n
  · subst hk
    rw [he.mx_n] at hm
    exact (List.mem_append.mp hm).imp_right (⟨rfl, ·⟩)
  · rw [he.mx_ne k hk] at hm; exact Or.inl hm

theorem Edit.mirror (hcs : ∀ k ∈ cs, k ∈ ms) (hn : n < g.len) (hmi : Mirror g.len g.mx g.ch) :
    Mirror g1.len g1.mx g1.ch := by
  intro a c hc
  rw [he.len]
  rcases (he.ch a c).mp hc with h1 | ⟨rfl, h1⟩
  · exact ⟨(hmi a c h1).1, he.mx_sub _ _ (hmi a c h1).2⟩
  · exact ⟨hn, by rw [he.mx_n]; exact List.mem_append_right _ (hcs a h1)⟩

theorem Edit.lockClosed (hl : g.lk n = false) (hc : LockClosed g.mx g.lk) : LockClosed g1.mx g1.lk := by
  rw [he.lk]
  intro x hx m hm
  have hxn : x ≠ n := by rintro rfl; rw [hl] at hx; cases hx
  rw [he.mx_ne x hxn] at hm
  exact hc x hx m hm

theorem Edit.defns_of_not_below {c : Nat} (hr : ¬ (c = n ∨ Anc g.mx n c)) (f : Nat) : g1.defns f c = g.defns f c :=
  Graph.defns_local g g1 f c fun x hx => by
    have hxn : x ≠ n := by rintro rfl; exact hr (hx.imp Eq.symm id)
    exact ⟨he.ow_ne x hxn, he.mx_ne x hxn⟩

/-- no linked path into `c` passes through `n`, and every new edge is at `n` -/
theorem Edit.fixed_of_no_lpath {c : Nat} (hnc : ¬ LPath g1.ch n c) (hf : Fixed g.mx g.ch g.lk c) :
    Fixed g1.mx g1.ch g1.lk c := by
  intro x hx m hm
  rcases lpath_split (ch := g.ch) (n := n) (fun k c' hc' => ((he.ch k c').mp hc').imp_right And.left) hx with hxg | hxg
  · have hxn : x ≠ n := by rintro rfl; exact hnc hx
    rw [he.mx_ne x hxn] at hm
    rw [he.lk]
    exact (hf x hxg m hm).imp_right (he.ch_sub _ _)
  · exact absurd hxg hnc

end

def Graph.setOwn (g : Graph) (n : Nat) (o : List (Def × Int)) : Graph := g.set n { g.get n with own := o }

def Graph.addEdges (g : Graph) (n : Nat) (ms : List Nat) : Graph :=
  let g1 := if (g.get n).linkback then
    ms.foldl (fun g m => let y := g.get m; g.set m { y with children := y.children ++ [n] }) g else g
  g1.set n { g1.get n with mixins := (g1.get n).mixins ++ ms }

/-- the common form of `register`, `unregister`, `add_mixins`: the lock of `g` decides, `_update()` runs on `g1` -/
def Graph.modify (g : Graph) (n : Nat) (g1 : Graph) : Graph × Option Outcome :=
  if (g.get n).locked then (g, some .locked) else
  ((Graph.update g1.depth g1 n).1, (Graph.update g1.depth g1 n).2.map (fun _ => Outcome.configError))

section
variable (g : Graph) (n : Nat)

theorem Graph.setOwn_edit (o : List (Def × Int)) : Edit g (g.setOwn n o) n [] [] := by
  refine ⟨Graph.len_set _ _ _, ?_, fun k _ => Graph.proj_set_k Node.mixins g n _ k, fun k c => ?_,
    fun k hk => congrArg Node.own (Graph.get_set_ne g n _ k hk),
    Graph.proj_set Node.locked g n _, Graph.proj_set Node.tab g n _⟩
  · rw [List.append_nil]; exact Graph.proj_set_k Node.mixins g n _ n
  · rw [show (g.setOwn n o).ch k = g.ch k from Graph.proj_set_k Node.children g n _ k]
    simp only [List.not_mem_nil, and_false, or_false]

theorem Graph.addChild_edit (m : Nat) (hm : m < g.len) :
    Edit g (g.set m { g.get m with children := (g.get m).children ++ [n] }) n [] [m] := by
  refine ⟨Graph.len_set _ _ _, ?_, fun k _ => Graph.proj_set_k Node.mixins g m _ k, fun k c => ?_,
    fun k _ => Graph.proj_set_k Node.own g m _ k,
    Graph.proj_set Node.locked g m _, Graph.proj_set Node.tab g m _⟩
  · rw [List.append_nil]; exact Graph.proj_set_k Node.mixins g m _ n
  · rw [show (g.set m _).ch k = _ from Graph.proj_set_at Node.children g m _ k]
    by_cases hk : k = m
    · subst hk; simp [show k < g.nodes.length from hm, Graph.ch]
    · simp [hk, Graph.ch]

theorem Graph.addMixin_edit (ms : List Nat) (hn : n < g.len) :
    Edit g (g.set n { g.get n with mixins := (g.get n).mixins ++ ms }) n ms [] := by
  refine ⟨Graph.len_set _ _ _, congrArg Node.mixins (Graph.get_set_self g n _ hn),
    fun k hk => congrArg Node.mixins (Graph.get_set_ne g n _ k hk), fun k c => ?_,
    fun k _ => Graph.proj_set_k Node.own g n _ k,
    Graph.proj_set Node.locked g n _, Graph.proj_set Node.tab g n _⟩
  rw [show (g.set n _).ch k = g.ch k from Graph.proj_set_k Node.children g n _ k]
  simp only [List.not_mem_nil, and_false, or_false]

theorem Graph.addChildren_edit : ∀ (ms : List Nat) (a : Graph), (∀ m ∈ ms, m < a.len) →
    Edit a (ms.foldl (fun g m => let y := g.get m; g.set m { y with children := y.children ++ [n] }) a) n [] ms
  | [], a, _ => Edit.refl a n
  | m :: ms, a, hms => by
    have h1 := Graph.addChild_edit a n m (hms m (by simp))
    exact h1.trans (Graph.addChildren_edit ms _ (fun m' hm' => by rw [h1.len]; exact hms m' (by simp [hm'])))

theorem Graph.addEdges_edit (ms : List Nat) (hn : n < g.len) (hms : ∀ m ∈ ms, m < g.len) :
    Edit g (g.addEdges n ms) n ms (if (g.get n).linkback then ms else []) := by
  unfold Graph.addEdges
  cases (g.get n).linkback with
  | false => exact Graph.addMixin_edit g n ms hn
  | true =>
    have h1 := Graph.addChildren_edit n ms g hms
    have h2 := h1.trans (Graph.addMixin_edit _ n ms (by rw [h1.len]; exact hn))
    rw [List.nil_append, List.append_nil] at h2
    exact h2

theorem Graph.modify_locked (g1 : Graph) (h : (g.get n).locked = true) :
    g.modify n g1 = (g, some .locked) := if_pos h

theorem Graph.modify_unlocked (g1 : Graph) (h : (g.get n).locked = false) :
    g.modify n g1 =
      ((Graph.update g1.depth g1 n).1, (Graph.update g1.depth g1 n).2.map (fun _ => Outcome.configError)) :=
  if_neg (by rw [h]; exact Bool.false_ne_true)

theorem Graph.modify_tabs (g1 : Graph) (h : g1.tb = g.tb) : TUpd g (g.modify n g1).1 := by
  intro k
  unfold Graph.modify
  split
  · exact Or.inl rfl
  · rw [← h]; exact (Graph.update_builds _ g1 n).tabs k

theorem Graph.register_eq (d : Def) :
    g.register n d = g.modify n (g.setOwn n (setDefn ((g.get n).own.length + 1) (g.get n).own d 0)) := by
  unfold Graph.register Graph.modify Graph.setOwn
  dsimp only

theorem Graph.unregister_eq (id : Nat) :
    g.unregister n id = g.modify n (g.setOwn n ((g.get n).own.filter (fun e => e.1.d.id != id))) := by
  unfold Graph.unregister Graph.modify Graph.setOwn
  dsimp only

theorem Graph.addMixins_eq (ms : List Nat) :
    g.addMixins n ms = g.modify n (g.addEdges n (ms.filter (fun m => m != n))) := by
  unfold Graph.addMixins Graph.modify Graph.addEdges
  dsimp only

theorem Graph.create_eq (ms : List Nat) (lb : Bool) :
    g.create ms lb = ((Graph.mk (g.nodes ++ [{ linkback := lb }])).addMixins g.nodes.length ms).1 := rfl

theorem Graph.addEdges_tb (ms : List Nat) : (g.addEdges n ms).tb = g.tb := by
  unfold Graph.addEdges
  refine (Graph.proj_set Node.tab _ n _).trans ?_
  split
  · exact foldl_preorder (fun a b : Graph => b.tb = a.tb) (fun _ => rfl) (fun _ _ _ h1 h2 => h2.trans h1) _ ms
      (fun a m _ => Graph.proj_set Node.tab a m _) g
  · rfl

end

theorem Graph.step_tabs (cfg : Cfg) (g : Graph) (op : GOp) (hop : ∀ n c, op ≠ .call n c) :
    TUpd g (g.step cfg op).1 := by
  fun_cases Graph.step cfg g op with
  | case1 ms lb =>
    rw [Graph.create_eq, Graph.addMixins_eq]
    intro k
    rw [← show (Graph.mk (g.nodes ++ [{ linkback := lb }])).tb k = g.tb k from
      congrFun (Graph.proj_append Node.tab g _) k]
    exact Graph.modify_tabs _ _ _ (Graph.addEdges_tb _ _ _) k
  | case2 n ms => rw [Graph.addMixins_eq]; exact Graph.modify_tabs g n _ (Graph.addEdges_tb g n _)
  | case3 n d => rw [Graph.register_eq]; exact Graph.modify_tabs g n _ (Graph.setOwn_edit g n _).tb
  | case4 n id => rw [Graph.unregister_eq]; exact Graph.modify_tabs g n _ (Graph.setOwn_edit g n _).tb
  | case5 n c => exact absurd rfl (hop n c)

/-- isolation (C16): a modification of `n`, accepted or not, changes the definitions of `n` and of the functions
    that derive from `n` only -/
theorem Graph.isolation_modify {g g1 : Graph} {n : Nat} {ms cs : List Nat} (he : Edit g g1 n ms cs) (m : Nat)
    (hm : m ≠ n) (hnot : ancB g.mx g.depth n m = false) :
    (g.modify n g1).1.defns (g.modify n g1).1.depth m = g.defns g.depth m := by
  unfold Graph.modify
  split
  · rfl
  · rw [(Graph.update_builds _ g1 n).shape.defns, Graph.depth_eq, he.len, ← Graph.depth_eq]
    exact Graph.defns_isolated g g1 n he.mx_ne he.ow_ne _ m hm hnot

def Graph.serve (cfg : Cfg) (g : Graph) (n : Nat) (c : Call) : Graph × Outcome × Trace × Nat :=
  (g.setTab n { g.tb n with mm := ((g.tb n).view.call cfg c).1.mm }, ((g.tb n).view.call cfg c).2)

section
variable (cfg : Cfg) (g : Graph) (n : Nat) (c : Call)

theorem Graph.call_eq :
    g.call cfg n c = match g.compileIf (!(g.get n).compiled) n with
      | (g1, some _) => (g1, .configError, [], 0)
      | (g1, none) => g1.serve cfg n c := by
  have : g.compileIf (!(g.get n).compiled) n = if (g.get n).compiled then (g, none) else g.compile n := by
    unfold Graph.compileIf; cases (g.get n).compiled <;> rfl
  rw [this]
  unfold Graph.call
  generalize (if (g.get n).compiled then (g, none) else g.compile n) = r
  obtain ⟨g1, _ | e⟩ := r
  -- unfold as far as `serve` only: the `Fn.call` inside must stay opaque (`rfl` would unfold it)
  · dsimp only [Graph.serve, Graph.setTab, Tab.view, Graph.tb, Node.tab]
  · rfl

theorem Graph.call_compiled (h : (g.tb n).compiled = true) :
    g.call cfg n c = g.serve cfg n c := by
  rw [Graph.call_eq, show (g.get n).compiled = true from h]; rfl

theorem Graph.serve_tb (k : Nat) :
    (g.serve cfg n c).1.tb k = if k = n ∧ n < g.len
      then { g.tb n with mm := ((g.tb n).view.call cfg c).1.mm } else g.tb k :=
  Graph.setTab_tb g n _ k

theorem Graph.call_tb_ne (k : Nat) (h : k ≠ n) :
    (g.call cfg n c).1.tb k = g.tb k := by
  rw [Graph.call_eq]
  have h1 := Graph.compileIf_tb_ne (!(g.get n).compiled) g n k h
  generalize g.compileIf (!(g.get n).compiled) n = r at h1 ⊢
  obtain ⟨g1, _ | e⟩ := r
  · exact (Graph.serve_tb cfg g1 n c k).trans ((if_neg fun hh => h hh.1).trans h1)
  · exact h1

end

end Ovld

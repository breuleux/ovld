import Ovldverif.Spec.CacheSpec
import Ovldverif.Lemmas.ListFacts
/-!
# The write lists of a resolution, the frame lemma of the cache invariant, the branches of a lookup
-/
set_option autoImplicit false
namespace Ovld

section
variable {K F E : Type}

/-- the write that publishes rank `r` under the key `t` -/
def wOf (r : Rank F E) (t : CKey K) : W K F E :=
  match r.func with
  | some f => W.c t f
  | none => W.e t r.err

/-- what a key under which rank `r` is stored resolves to (`none`: nothing stored).
    Stays directly below `wOf`: its inner `match` reuses the matcher `wOf.match_1`, and the term changes otherwise. -/
def resOfRank : Option (Rank F E) → Res F E
  | some r => (match r.func with | some f => .ok f | none => .amb r.err)
  | none => .noMethod

theorem resOfRank_some (r : Rank F E) :
    resOfRank (some r) = (match r.func with | some f => .ok f | none => .amb r.err) := rfl

theorem resOfRank_eq_ok {o : Option (Rank F E)} {f : F} (h : resOfRank o = .ok f) : ∃ r, o = some r ∧ r.func = some f := by
  cases o with
  | none => cases h
  | some r =>
    rw [resOfRank_some] at h
    cases hfn : r.func with
    | none => rw [hfn] at h; cases h
    | some g => rw [hfn] at h; cases h; exact ⟨r, rfl, hfn⟩

/-- the loop goes on below a rank only if it has a callable and a code (the two `break`s of `resolve`) -/
def Rank.live (r : Rank F E) : Bool := r.func.isSome && !r.codes.isEmpty

theorem Rank.live_of_mem {r : Rank F E} {c : Code} (hf : r.func.isSome = true) (hc : c ∈ r.codes) :
    r.live = true := by
  unfold Rank.live
  rw [hf]
  cases h : r.codes with
  | nil => rw [h] at hc; cases hc
  | cons _ _ => rfl

namespace ConcLookup

def Present (st : St K F E) : W K F E → Prop
  | .c ck f => st.cache ck = some f
  | .e ck e => st.errors ck = some e

/-- `st'` extends `st`: nothing is evicted, nothing is overwritten with another value -/
structure Ext (st st' : St K F E) : Prop where
  c : ∀ ck f, st.cache ck = some f → st'.cache ck = some f
  e : ∀ ck e, st.errors ck = some e → st'.errors ck = some e
  a : ∀ k, st.all k ≠ none → st'.all k ≠ none

theorem Ext.refl (st : St K F E) : Ext st st := ⟨fun _ _ h => h, fun _ _ h => h, fun _ h => h⟩

theorem Ext.trans {a b c : St K F E} (x : Ext a b) (y : Ext b c) : Ext a c :=
  ⟨fun ck f h => y.c ck f (x.c ck f h), fun ck e h => y.e ck e (x.e ck e h), fun k h => y.a k (x.a k h)⟩

theorem Ext.of_present {st st' : St K F E} (p : ∀ w, Present st w → Present st' w)
    (a : ∀ k, st.all k ≠ none → st'.all k ≠ none) : Ext st st' :=
  ⟨fun ck f => p (.c ck f), fun ck e => p (.e ck e), a⟩

variable [DecidableEq K] in
set_option linter.unusedSectionVars false in
theorem Present.stable {st st' : St K F E} (x : Ext st st') : ∀ w, Present st w → Present st' w
  | .c ck f, h => x.c ck f h
  | .e ck e, h => x.e ck e h

theorem Ext.cache_ne_none {st st' : St K F E} (x : Ext st st') {ck : CKey K} (h : st.cache ck ≠ none) :
    st'.cache ck ≠ none := by
  cases hc : st.cache ck with
  | none => exact absurd hc h
  | some f => exact x.c ck f hc ▸ Option.some_ne_none f

end ConcLookup
open ConcLookup

/-- the three dicts are empty (the key lists are not constrained) -/
structure StBlank (st : St K F E) : Prop where
  cache : ∀ ck, st.cache ck = none
  errors : ∀ ck, st.errors ck = none
  all : ∀ k, st.all k = none

theorem StBlank.empty : StBlank (St.empty : St K F E) := ⟨fun _ => rfl, fun _ => rfl, fun _ => rfl⟩

/-- `register` leaves nothing behind, whatever had been looked up before (C05) -/
theorem StBlank.of_cleared (st : St K F E) : StBlank (Ovld.cleared st) := StBlank.empty

theorem StBlank.cleared {st : St K F E} (_h : StBlank st) : StBlank (cleared st) :=
  StBlank.of_cleared st

def W.key : W K F E → CKey K
  | .c ck _ => ck
  | .e ck _ => ck

/-- entries and errors exchanged: whatever holds of `lastC` holds of `lastE` on the mirrored list -/
def W.swap : W K F E → W K E F
  | .c ck x => .e ck x
  | .e ck x => .c ck x

theorem W.swap_swap (w : W K F E) : w.swap.swap = w := by cases w <;> rfl

theorem mem_map_swap {w : W K E F} {l : List (W K F E)} : w ∈ l.map W.swap ↔ w.swap ∈ l := by
  rw [List.mem_map]
  exact ⟨fun ⟨a, ha, e⟩ => by rw [← e, W.swap_swap]; exact ha, fun h => ⟨_, h, W.swap_swap w⟩⟩

/-- the composite keys one rank is published under, given the codes of the previous rank -/
def tups (k : K) (ps : List Code) : List (CKey K) :=
  if ps.isEmpty then [(none, k)] else ps.map (fun p => (some p, k))

theorem mem_tups (k : K) (ps : List Code) (t : CKey K) :
    t ∈ tups k ps ↔ (ps = [] ∧ t = (none, k)) ∨ (∃ p ∈ ps, t = (some p, k)) := by
  cases ps with
  | nil => simp [tups]
  | cons p ps =>
    simp only [tups, List.isEmpty_cons, Bool.false_eq_true, if_false, List.mem_map]
    constructor
    · rintro ⟨q, hq, rfl⟩; exact Or.inr ⟨q, hq, rfl⟩
    · rintro (⟨h, _⟩ | ⟨q, hq, rfl⟩)
      · cases h
      · exact ⟨q, hq, rfl⟩

theorem tups_nodup (k : K) (ps : List Code) (h : ps.Nodup) : (tups k ps).Nodup := by
  cases ps with
  | nil => simp [tups]
  | cons p ps =>
    simp only [tups, List.isEmpty_cons, Bool.false_eq_true, if_false]
    exact List.pairwise_map.2 (h.imp fun hne he => hne (by cases he; rfl))

theorem mem_tups_some (k : K) (ps : List Code) (c : Code) : ((some c, k) : CKey K) ∈ tups k ps ↔ c ∈ ps := by
  rw [mem_tups]
  constructor
  · rintro (⟨_, h⟩ | ⟨p, hp, h⟩)
    · cases h
    · cases h; exact hp
  · intro h; exact Or.inr ⟨c, h, rfl⟩

theorem wOf_key (r : Rank F E) (t : CKey K) : (wOf r t).key = t := by
  unfold wOf; cases r.func <;> rfl

theorem writes_cons (k : K) (r : Rank F E) (rs : List (Rank F E)) (ps : List Code) :
    (writes k (r :: rs) ps : List (W K F E)) =
      (tups k ps).map (wOf r) ++ (if r.live then writes k rs r.codes else []) := by
  obtain ⟨func, codes, err⟩ := r
  cases func with
  | none => exact (List.append_nil _).symm
  | some f => cases codes <;> rfl

theorem mem_later {k : K} {r : Rank F E} {rs : List (Rank F E)} {w : W K F E}
    (h : w ∈ (if r.live then writes k rs r.codes else [])) : r.codes ≠ [] ∧ w ∈ writes k rs r.codes := by
  cases hl : r.live with
  | false => rw [hl] at h; cases h
  | true => rw [hl] at h; exact ⟨fun e => by simp [Rank.live, e] at hl, h⟩

theorem mem_writes_cons {k : K} {r : Rank F E} {rs : List (Rank F E)} {ps : List Code} {w : W K F E}
    (h : w ∈ writes k (r :: rs) ps) : w.key ∈ tups k ps ∨ (r.codes ≠ [] ∧ w ∈ writes k rs r.codes) := by
  rw [writes_cons] at h
  rcases List.mem_append.1 h with h | h
  · obtain ⟨t, ht, rfl⟩ := List.mem_map.1 h
    exact Or.inl ((wOf_key r t).symm ▸ ht)
  · exact Or.inr (mem_later h)

theorem rankCodes_cons (r : Rank F E) (rs : List (Rank F E)) :
    rankCodes (r :: rs) = r.codes ++ rankCodes rs := by
  simp [rankCodes]

theorem writes_keys (k : K) : ∀ (rs : List (Rank F E)) (ps : List Code) (w : W K F E), w ∈ writes k rs ps →
    w.key.2 = k ∧ (w.key.1 = none → ps = []) ∧ (∀ c, w.key.1 = some c → c ∈ ps ∨ c ∈ rankCodes rs) := by
  intro rs
  induction rs with
  | nil => intro ps w h; cases h
  | cons r rs ih =>
    intro ps w h
    rcases mem_writes_cons h with ht | ⟨hne, hw⟩
    · rcases (mem_tups k ps _).1 ht with ⟨h1, e⟩ | ⟨p, hp, e⟩ <;> rw [e]
      · exact ⟨rfl, fun _ => h1, fun c hc => by cases hc⟩
      · exact ⟨rfl, fun hc => (by cases hc), fun c hc => by cases hc; exact Or.inl hp⟩
    · obtain ⟨h1, h2, h3⟩ := ih r.codes w hw
      refine ⟨h1, fun hn => absurd (h2 hn) hne, fun c hc => Or.inr ?_⟩
      rw [rankCodes_cons]
      exact List.mem_append.2 (h3 c hc)

theorem writes_keys_nodup (k : K) : ∀ (rs : List (Rank F E)) (ps : List Code),
    (ps ++ rankCodes rs).Nodup → ((writes k rs ps : List (W K F E)).map W.key).Nodup := by
  intro rs
  induction rs with
  | nil => intro ps _; exact List.nodup_nil
  | cons r rs ih =>
    intro ps nd
    rw [rankCodes_cons] at nd
    obtain ⟨ndps, nd', hd⟩ := List.nodup_append.1 nd
    rw [writes_cons, List.map_append, List.map_map, show W.key ∘ wOf r = id from funext (wOf_key r), List.map_id]
    refine List.nodup_append.2 ⟨tups_nodup k ps ndps, ?_, ?_⟩
    · cases r.live with
      | false => exact List.nodup_nil
      | true => exact ih r.codes nd'
    · -- a key of this round is `(none, k)` or `(some p, k)` with `p ∈ ps`; a later round writes at codes of ranks
      intro a ha b hb hab
      subst hab
      obtain ⟨w, hw, e⟩ := List.mem_map.1 hb
      obtain ⟨hne, hw⟩ := mem_later hw
      obtain ⟨_, h2, h3⟩ := writes_keys k rs r.codes w hw
      rcases (mem_tups k ps _).1 ha with ⟨_, h5⟩ | ⟨p, hp, h5⟩
      · exact hne (h2 (by rw [e]; exact congrArg Prod.fst h5))
      · exact hd p hp p (List.mem_append.2 (h3 p (by rw [e]; exact congrArg Prod.fst h5))) rfl

section
variable (plan : K → Plan F E)

theorem mem_ws (k : K) (w : W K F E) : w ∈ ws plan k ↔ w ∈ writes k (plan k).ranks [] := by
  unfold ws; exact List.mem_reverse

theorem ws_key {k : K} {w : W K F E} (h : w ∈ ws plan k) : w.key.2 = k :=
  (writes_keys k _ _ _ ((mem_ws plan k _).1 h)).1

theorem ws_keys_nodup (ok : PlanOK plan) (k : K) : ((ws plan k).map W.key).Nodup := by
  have nd := writes_keys_nodup (F := F) (E := E) k (plan k).ranks [] (by simpa using ok.codes_nodup k)
  unfold ws
  rw [List.map_reverse]
  exact List.pairwise_reverse.2 (nd.imp Ne.symm)

/-- the entry of the looked-up key itself (or its error) is the LAST write of its resolution: in `writes` it is the
    head, and every later round writes under a code -/
theorem ws_top {k : K} {r : Rank F E} {rs : List (Rank F E)} (hr : (plan k).ranks = r :: rs) :
    ∃ init : List (W K F E), (∀ w ∈ init, w.key.1 ≠ none) ∧ (r.func = none → init = []) ∧
      ws plan k = init ++ [wOf r (none, k)] := by
  refine ⟨(if r.live then writes k rs r.codes else []).reverse, fun w hw hn => ?_, fun h => by simp [Rank.live, h], ?_⟩
  · obtain ⟨hne, hw⟩ := mem_later (List.mem_reverse.1 hw)
    exact hne ((writes_keys k rs r.codes w hw).2.1 hn)
  · unfold ws
    rw [hr, writes_cons]
    exact List.reverse_append

theorem ws_top_last {k : K} {pre rest : List (W K F E)} {w : W K F E}
    (h : ws plan k = pre ++ w :: rest) (hw : w.key.1 = none) : rest = [] := by
  cases hr : (plan k).ranks with
  | nil => unfold ws at h; rw [hr] at h; cases pre <;> cases h
  | cons r rs =>
    obtain ⟨init, hi, _, e⟩ := ws_top plan hr
    rw [e] at h
    rcases List.append_eq_append_iff.1 h with ⟨as, _, h⟩ | ⟨bs, hb, h⟩
    · cases as with
      | nil => exact (List.cons.inj h).2.symm
      | cons a as => cases as <;> cases (List.cons.inj h).2
    · cases bs with
      | nil => exact (List.cons.inj h).2
      | cons b bs => cases (List.cons.inj h).1; exact absurd hw (hi w (by rw [hb]; simp))

theorem ws_first {k : K} {c : Option Code} {f : F} (h : W.c (c, k) f ∈ ws plan k) :
    ∃ r rs g, (plan k).ranks = r :: rs ∧ r.func = some g ∧ (c = none → g = f) := by
  cases hr : (plan k).ranks with
  | nil => unfold ws at h; rw [hr] at h; cases h
  | cons r rs =>
    obtain ⟨init, hi, hn, e⟩ := ws_top plan hr
    rw [e] at h
    unfold wOf at h
    cases hfn : r.func with
    | none => rw [hfn, hn hfn] at h; cases List.mem_singleton.1 h
    | some g =>
      rw [hfn] at h
      refine ⟨r, rs, g, rfl, hfn, fun hc => ?_⟩
      subst hc
      rcases List.mem_append.1 h with h | h
      · exact absurd rfl (hi _ h)
      · cases List.mem_singleton.1 h; rfl

theorem resolves_eq_false {st : St K F E} {c : Option Code} {k : K} :
    resolves plan st (c, k) = false ↔
      st.cache (c, k) ≠ none ∨ st.cache (none, k) ≠ none ∨ (plan k).fail = true := by
  cases c <;> simp only [resolves] <;> cases st.cache (none, k) <;> cases (plan k).fail <;>
    simp [Option.isSome_iff_ne_none]

theorem resolves_ext {st st' : St K F E} (x : Ext st st') {ck : CKey K} (h : resolves plan st ck = false) :
    resolves plan st' ck = false := by
  obtain ⟨c, k⟩ := ck
  rw [resolves_eq_false] at h ⊢
  exact h.imp x.cache_ne_none (Or.imp_left x.cache_ne_none)

end

variable [DecidableEq K]

/-- a write before `l`: a later write to `ck` in `l` wins (`rfl`: `rw [lastC]` proves its equation lemmas first) -/
theorem lastC_c (ck ck' : CKey K) (f : F) (l : List (W K F E)) : lastC ck (.c ck' f :: l) =
    match lastC ck l with | some g => some g | none => if ck = ck' then some f else none := rfl
theorem lastE_e (ck ck' : CKey K) (e : E) (l : List (W K F E)) : lastE ck (.e ck' e :: l) =
    match lastE ck l with | some g => some g | none => if ck = ck' then some e else none := rfl

theorem lastE_eq_swap (ck : CKey K) : ∀ l : List (W K F E), lastE ck l = lastC ck (l.map W.swap)
  | [] => rfl
  | .c _ _ :: l => lastE_eq_swap ck l
  | .e ck' x :: l => by rw [lastE_e, lastE_eq_swap ck l]; rfl

/-! `fun_induction lastC ck l` also splits on what the tail answers.  A cache write `.c ck' f'` before `l`: `case2`, `l`
writes to `ck` (`hl : lastC ck l = some g`); `case3`, it does not and `ck' = ck`; `case4`, it does not and `ck' ≠ ck`.
`case5`: a write to `errors`.  `applyW.induct` leaves the goal as stated: `applyW st (w :: l)` reduces to `applyW` on
the state after `w`, of which `ih` speaks. -/

theorem lastC_mem {ck : CKey K} {l : List (W K F E)} {f : F} (h : lastC ck l = some f) : W.c ck f ∈ l := by
  fun_induction lastC ck l with
  | case1 => cases h
  | case2 ck' f' l g hl ih => cases h; exact List.mem_cons_of_mem _ (ih hl)
  | case3 f' l hl ih => cases h; exact List.mem_cons_self
  | case4 ck' f' l hl hne ih => cases h
  | case5 ck' e l ih => exact List.mem_cons_of_mem _ (ih h)

theorem lastC_some_of_mem {ck : CKey K} {f : F} {l : List (W K F E)} (h : W.c ck f ∈ l) :
    ∃ g, lastC ck l = some g := by
  fun_induction lastC ck l with
  | case1 => cases h
  | case2 ck' f' l g hl ih => exact ⟨g, rfl⟩
  | case3 f' l hl ih => exact ⟨f', rfl⟩
  | case4 ck' f' l hl hne ih =>
    rcases List.mem_cons.1 h with h | h
    · cases h; exact absurd rfl hne
    · exact hl ▸ ih h
  | case5 ck' e l ih => exact ih ((List.mem_cons.1 h).resolve_left (fun h => by cases h))

theorem lastC_none_of_not_mem {ck : CKey K} {l : List (W K F E)} (h : ∀ f, W.c ck f ∉ l) : lastC ck l = none := by
  cases hl : lastC ck l with
  | none => rfl
  | some f => exact absurd (lastC_mem hl) (h f)

theorem lastE_mem {ck : CKey K} {l : List (W K F E)} {e : E} (h : lastE ck l = some e) : W.e ck e ∈ l :=
  mem_map_swap.1 (lastC_mem (lastE_eq_swap ck l ▸ h))

theorem lastE_some_of_mem {ck : CKey K} {e : E} {l : List (W K F E)} (h : W.e ck e ∈ l) :
    ∃ g, lastE ck l = some g :=
  lastE_eq_swap ck l ▸ lastC_some_of_mem (mem_map_swap.2 h)

theorem lastE_none_of_not_mem {ck : CKey K} {l : List (W K F E)} (h : ∀ e, W.e ck e ∉ l) : lastE ck l = none := by
  cases hl : lastE ck l with
  | none => rfl
  | some e => exact absurd (lastE_mem hl) (h e)

def Last (l : List (W K F E)) : W K F E → Prop
  | .c ck f => lastC ck l = some f
  | .e ck e => lastE ck l = some e

theorem Last.mem {l : List (W K F E)} : ∀ {w}, Last l w → w ∈ l
  | .c _ _, h => lastC_mem h
  | .e _ _, h => lastE_mem h

theorem Last.of_unique {l : List (W K F E)} : ∀ {w}, w ∈ l → (∀ w' ∈ l, w'.key = w.key → w' = w) → Last l w
  | .c ck f, hm, hu => by
    obtain ⟨g, hg⟩ := lastC_some_of_mem hm
    cases hu _ (lastC_mem hg) rfl
    exact hg
  | .e ck e, hm, hu => by
    obtain ⟨g, hg⟩ := lastE_some_of_mem hm
    cases hu _ (lastE_mem hg) rfl
    exact hg

theorem Last.of_mem {l : List (W K F E)} (nd : (l.map W.key).Nodup) {w : W K F E} (hm : w ∈ l) : Last l w :=
  Last.of_unique hm fun _ hw' e => eq_of_nodup_map W.key nd hw' hm e

theorem applyW_cache (l : List (W K F E)) (st : St K F E) (ck : CKey K) :
    (applyW st l).cache ck = (lastC ck l).or (st.cache ck) := by
  induction st, l using applyW.induct with
  | case1 st => rfl
  | case2 st ck' f l ih =>
    rw [lastC_c, show (applyW st (.c ck' f :: l)).cache ck = _ from ih]
    cases lastC ck l with
    | some g => rfl
    | none => by_cases h : ck = ck' <;> simp [h]
  | case3 st ck' e l ih => exact ih

theorem applyW_errors (l : List (W K F E)) (st : St K F E) (ck : CKey K) :
    (applyW st l).errors ck = (lastE ck l).or (st.errors ck) := by
  induction st, l using applyW.induct with
  | case1 st => rfl
  | case2 st ck' f l ih => exact ih
  | case3 st ck' e l ih =>
    rw [lastE_e, show (applyW st (.e ck' e :: l)).errors ck = _ from ih]
    cases lastE ck l with
    | some g => rfl
    | none => by_cases h : ck = ck' <;> simp [h]

theorem applyW_all (l : List (W K F E)) (st : St K F E) : (applyW st l).all = st.all := by
  induction st, l using applyW.induct with
  | case1 st => rfl
  | case2 st ck f l ih | case3 st ck e l ih => exact ih

theorem present_applyW_of_last {st : St K F E} {l : List (W K F E)} : ∀ {w}, Last l w → Present (applyW st l) w
  | .c ck f, h => by show _ = _; rw [applyW_cache, show lastC ck l = some f from h]; rfl
  | .e ck e, h => by show _ = _; rw [applyW_errors, show lastE ck l = some e from h]; rfl

theorem present_applyW {st : St K F E} {l : List (W K F E)} :
    ∀ {w}, Present (applyW st l) w → Last l w ∨ Present st w
  | .c ck f, h => by
    have h' : (applyW st l).cache ck = some f := h
    rw [applyW_cache, Option.or_eq_some_iff] at h'
    exact h'.imp id (·.2)
  | .e ck e, h => by
    have h' : (applyW st l).errors ck = some e := h
    rw [applyW_errors, Option.or_eq_some_iff] at h'
    exact h'.imp id (·.2)

theorem present_applyW_of_key {st : St K F E} {l : List (W K F E)} :
    ∀ {w}, (∀ w' ∈ l, w'.key ≠ w.key) → Present st w → Present (applyW st l) w
  | .c ck f, hk, h => by
    show _ = _
    rw [applyW_cache, lastC_none_of_not_mem fun g hg => hk _ hg rfl]
    exact h
  | .e ck e, hk, h => by
    show _ = _
    rw [applyW_errors, lastE_none_of_not_mem fun g hg => hk _ hg rfl]
    exact h

variable (plan : K → Plan F E)

/-- the common tail of `pureTop` and `pureNext` (default `d`: `.keyError` / `.noMethod`): what the two dicts answer
    under a key that is written once -/
theorem read_written_once (l : List (W K F E)) (r : Rank F E) (ck : CKey K) (d : Res F E) (hm : wOf r ck ∈ l)
    (hu : ∀ w ∈ l, w.key = ck → w = wOf r ck) :
    (match lastE ck l with
      | some e => .amb e
      | none => match lastC ck l with
        | some f => .ok f
        | none => d) = resOfRank (some r) := by
  have hL : Last l (wOf r ck) := Last.of_unique hm (by rwa [wOf_key])
  unfold wOf at hL hu
  unfold resOfRank
  cases hfn : r.func with
  | none =>
    rw [hfn] at hL
    rw [show lastE ck l = some r.err from hL]; simp only [hfn]
  | some g =>
    rw [hfn] at hL hu
    rw [lastE_none_of_not_mem fun e he => (by cases hu _ he rfl), show lastC ck l = some g from hL]
    simp only [hfn]

theorem pureTop_eq_resOfRank (k : K) (hf : (plan k).fail = false) :
    pureTop plan k = resOfRank (plan k).ranks[0]? := by
  unfold pureTop
  rw [hf]
  cases hr : (plan k).ranks with
  | nil => rfl
  | cons r rs =>
    obtain ⟨init, hi, _, e⟩ := ws_top plan hr
    rw [e]
    exact read_written_once _ r _ _ (by simp) fun w hm ek =>
      (List.mem_append.1 hm).elim (fun h => absurd (congrArg Prod.fst ek) (hi w h)) List.mem_singleton.1

theorem pureTop_of_first {k : K} {r : Rank F E} {rs : List (Rank F E)} {g : F} (hf : (plan k).fail = false)
    (hr : (plan k).ranks = r :: rs) (hg : r.func = some g) : pureTop plan k = .ok g := by
  rw [pureTop_eq_resOfRank plan k hf, hr]
  simp [resOfRank, hg]

theorem pureNext_of_top {c : Code} {k : K} {f : F} (h : pureTop plan k = .ok f) :
    pureNext plan c k =
      if !(plan k).allCodes.contains c then .ok f
      else match lastE (some c, k) (ws plan k) with
        | some e => .amb e
        | none => match lastC (some c, k) (ws plan k) with
          | some f' => .ok f'
          | none => .noMethod := by
  unfold pureNext; rw [h]; rfl

/-- `w` is what a resolution of its key publishes, and that resolution does not fail -/
def Sound (w : W K F E) : Prop := Last (ws plan w.key.2) w ∧ (plan w.key.2).fail = false

theorem Sound.of_last {k : K} {w : W K F E} (hl : Last (ws plan k) w) (hf : (plan k).fail = false) : Sound plan w := by
  rw [Sound, ws_key plan hl.mem]
  exact ⟨hl, hf⟩

theorem CInv.sound {st : St K F E} (g : CInv plan st) : ∀ {w}, Present st w → Sound plan w
  | .c ck f, h => g.cache_sub ck f h
  | .e ck e, h => g.errors_sub ck e h

theorem CInv.closed {st : St K F E} (g : CInv plan st) {k : K} (hk : st.cache (none, k) ≠ none) :
    ∀ {w}, Last (ws plan k) w → Present st w
  | .c (c, k') f, h => by
    obtain rfl : k' = k := ws_key plan h.mem
    exact (g.closed_c k' hk c).trans h
  | .e (c, k') e, h => by
    obtain rfl : k' = k := ws_key plan h.mem
    exact (g.closed_e k' hk c).trans h

theorem StBlank.inv {st : St K F E} (h : StBlank st) : CInv plan st :=
  { cache_sub := by intro ck f hc; rw [h.cache] at hc; cases hc
    errors_sub := by intro ck f hc; rw [h.errors] at hc; cases hc
    all_eq := by intro k cs hc; rw [h.all] at hc; cases hc
    closed_c := by intro k hk; exact absurd (h.cache (none, k)) hk
    closed_e := by intro k hk; exact absurd (h.cache (none, k)) hk
    top_all := by intro k f hc; rw [h.cache] at hc; cases hc }

theorem empty_inv : CInv plan (St.empty : St K F E) := StBlank.empty.inv plan

/-- the frame lemma: a state that extends one satisfying the invariant by sound entries only, and in which the
    own entry of a key appears only together with `all` of the key and everything its resolution publishes,
    satisfies the invariant -/
theorem CInv.extend {st st' : St K F E} (g : CInv plan st) (x : Ext st st')
    (snd : ∀ w, Present st' w → Present st w ∨ Sound plan w)
    (sa : ∀ k cs, st'.all k = some cs → st.all k = some cs ∨ (cs = (plan k).allCodes ∧ (plan k).fail = false))
    (cl : ∀ k f, Present st' (.c (none, k) f) → Present st (.c (none, k) f) ∨
      (st'.all k ≠ none ∧ ∀ w, Last (ws plan k) w → Present st' w)) : CInv plan st' := by
  have snd' : ∀ w, Present st' w → Sound plan w := fun w h => (snd w h).elim g.sound id
  have cl' : ∀ k f, st'.cache (none, k) = some f → st'.all k ≠ none ∧ ∀ w, Last (ws plan k) w → Present st' w :=
    fun k f hk => (cl k f hk).elim (fun hp : st.cache (none, k) = some f =>
      ⟨x.a k (g.top_all k f hp), fun w hw => Present.stable x w (g.closed plan (hp ▸ Option.some_ne_none f) hw)⟩) id
  have cl'' : ∀ k, st'.cache (none, k) ≠ none → ∀ w, Last (ws plan k) w → Present st' w := by
    intro k hk
    cases hc : st'.cache (none, k) with
    | none => exact absurd hc hk
    | some f => exact (cl' k f hc).2
  exact
    { cache_sub := fun ck f h => snd' (.c ck f) h
      errors_sub := fun ck e h => snd' (.e ck e) h
      all_eq := fun k cs h => (sa k cs h).elim (g.all_eq k cs) id
      closed_c := fun k hk c => Option.ext fun f =>
        ⟨fun h => (snd' (.c (c, k) f) h).1, fun h => cl'' k hk (.c (c, k) f) h⟩
      closed_e := fun k hk c => Option.ext fun e =>
        ⟨fun h => (snd' (.e (c, k) e) h).1, fun h => cl'' k hk (.e (c, k) e) h⟩
      top_all := fun k f h => (cl' k f h).1 }

theorem pureTop_of_hit {st : St K F E} (g : CInv plan st) {k : K} {f : F} (hc : st.cache (none, k) = some f) :
    pureTop plan k = .ok f := by
  obtain ⟨hl, hf⟩ := g.cache_sub (none, k) f hc
  obtain ⟨r, rs, f', hr, hg, h⟩ := ws_first plan (lastC_mem hl)
  rw [pureTop_of_first plan hf hr hg, h rfl]

theorem pureNext_of_hit (ok : PlanOK plan) {st : St K F E} (g : CInv plan st) {c : Code} {k : K} {f : F}
    (hc : st.cache (some c, k) = some f) : pureNext plan c k = .ok f := by
  obtain ⟨hl, hf⟩ := g.cache_sub (some c, k) f hc
  have hm := lastC_mem hl
  obtain ⟨r, rs, f', hr, hg, _⟩ := ws_first plan hm
  -- the entry is published under a code that `mro` recorded, and no error under the same key
  have hcode : (plan k).allCodes.contains c = true := by
    rcases (writes_keys k _ [] _ ((mem_ws plan k _).1 hm)).2.2 c rfl with h | h
    · cases h
    · exact List.contains_iff_mem.2 (ok.codes_sub k c h)
  have hne : lastE (some c, k) (ws plan k) = none := lastE_none_of_not_mem fun e he => by
    cases eq_of_nodup_map W.key (ws_keys_nodup plan ok k) hm he rfl
  rw [pureNext_of_top plan (pureTop_of_first plan hf hr hg), hcode, hne,
    show lastC (some c, k) (ws plan k) = some f from hl]
  rfl

theorem lookupTop_hit {st : St K F E} {k : K} {f : F} (hc : st.cache (none, k) = some f) :
    lookupTop plan st k = (st, .ok f) := by
  unfold lookupTop; rw [hc]

theorem lookupTop_fail {st : St K F E} {k : K} (hc : st.cache (none, k) = none) (hf : (plan k).fail = true) :
    lookupTop plan st k = (st, .failed) := by
  unfold lookupTop; rw [hc]; simp [hf]

theorem lookupTop_miss {st : St K F E} {k : K} (hc : st.cache (none, k) = none) (hf : (plan k).fail = false) :
    (lookupTop plan st k).1 = resolve plan k st ∧
      ∀ f, (lookupTop plan st k).2 = .ok f → (resolve plan k st).cache (none, k) = some f := by
  unfold lookupTop
  rw [hc]
  simp only [hf, Bool.false_eq_true, if_false]
  split
  · exact ⟨rfl, fun _ h => by cases h⟩
  · split
    · exact ⟨rfl, fun _ h => by cases h⟩
    · split
      · next g hg => exact ⟨rfl, fun _ h => by cases h; exact hg⟩
      · exact ⟨rfl, fun _ h => by cases h⟩

theorem cache_of_lookupTop_eq_ok (st : St K F E) (k : K) (f : F) (hr : (lookupTop plan st k).2 = .ok f) :
    (lookupTop plan st k).1.cache (none, k) = some f := by
  cases hc : st.cache (none, k) with
  | some g => rw [lookupTop_hit plan hc] at hr ⊢; cases hr; exact hc
  | none =>
    cases hf : (plan k).fail with
    | true => rw [lookupTop_fail plan hc hf] at hr; cases hr
    | false => rw [(lookupTop_miss plan hc hf).1]; exact (lookupTop_miss plan hc hf).2 f hr

theorem lookupNext_hit (st : St K F E) (c : Code) (k : K) (f : F) (hc : st.cache (some c, k) = some f) :
    lookupNext plan st c k = (st, .ok f) := by
  unfold lookupNext
  rw [hc]

theorem lookupNext_miss (st : St K F E) (c : Code) (k : K) (hc : st.cache (some c, k) = none) :
    (lookupNext plan st c k).1 = (lookupTop plan st k).1 ∧
      ∀ f, (lookupNext plan st c k).2 = .ok f → ∃ g, (lookupTop plan st k).2 = .ok g := by
  unfold lookupNext
  rw [hc]
  dsimp only
  generalize lookupTop plan st k = p
  obtain ⟨st', r⟩ := p
  cases r with
  | ok f =>
    refine ⟨?_, fun _ _ => ⟨f, rfl⟩⟩
    dsimp only
    repeat' split
    all_goals rfl
  | _ => exact ⟨rfl, fun _ h => by cases h⟩

theorem no_resolve_no_change (st : St K F E) (ck : CKey K) (h : resolves plan st ck = false) :
    (lookup plan st ck).1 = st := by
  obtain ⟨c, k⟩ := ck
  have top : st.cache (none, k) ≠ none ∨ (plan k).fail = true → (lookupTop plan st k).1 = st := by
    intro h
    cases hc : st.cache (none, k) with
    | some f => rw [lookupTop_hit plan hc]
    | none => rw [lookupTop_fail plan hc (h.resolve_left (absurd hc))]
  cases c with
  | none => exact top (((resolves_eq_false plan).1 h).elim Or.inl id)
  | some c =>
    show (lookupNext plan st c k).1 = st
    cases hc : st.cache (some c, k) with
    | some f => rw [lookupNext_hit plan st c k f hc]
    | none =>
      rw [(lookupNext_miss plan st c k hc).1]
      exact top (((resolves_eq_false plan).1 h).resolve_left (absurd hc))

theorem warm_of_lookup_eq_ok (st : St K F E) (ck : CKey K) (f : F) (hok : (lookup plan st ck).2 = .ok f) :
    resolves plan (lookup plan st ck).1 ck = false := by
  obtain ⟨c, k⟩ := ck
  rw [resolves_eq_false]
  cases c with
  | none => exact Or.inl (cache_of_lookupTop_eq_ok plan st k f hok ▸ Option.some_ne_none f)
  | some c =>
    show (lookupNext plan st c k).1.cache (some c, k) ≠ none ∨ (lookupNext plan st c k).1.cache (none, k) ≠ none ∨ _
    cases hc : st.cache (some c, k) with
    | some g => rw [lookupNext_hit plan st c k g hc]; exact Or.inl (hc ▸ Option.some_ne_none g)
    | none =>
      obtain ⟨hs, hr⟩ := lookupNext_miss plan st c k hc
      obtain ⟨g, hg⟩ := hr f hok
      rw [hs, cache_of_lookupTop_eq_ok plan st k g hg]
      exact Or.inr (Or.inl (Option.some_ne_none g))

end
end Ovld

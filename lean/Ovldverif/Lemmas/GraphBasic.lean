import Ovldverif.Model.Graph
import Ovldverif.Lemmas.ListFacts
import Ovldverif.Lemmas.GraphRel
/-!
# Graph of functions: projections, `get`/`set`, what locking and builds leave alone

Holds for arbitrary graphs.  The operations touch three groups of fields of a node separately: the static structure
(`own`, `mixins`, `children`: `Shape`), the `locked` flag, and the table a call works on (`Tab`).  Locking keeps the
first and the third (`Frame`); a build keeps the first and keeps or replaces each table (`Builds`; it also locks,
which `Builds` does not record).
-/
set_option autoImplicit false
namespace Ovld

def Graph.len (g : Graph) : Nat := g.nodes.length
def Graph.mx (g : Graph) : Nat → List Nat := fun k => (g.get k).mixins
def Graph.ch (g : Graph) : Nat → List Nat := fun k => (g.get k).children
def Graph.lk (g : Graph) : Nat → Bool := fun k => (g.get k).locked
def Graph.cp (g : Graph) : Nat → Bool := fun k => (g.get k).compiled
def Graph.bt (g : Graph) : Nat → List (Def × Int) := fun k => (g.get k).built
def Graph.ow (g : Graph) : Nat → List (Def × Int) := fun k => (g.get k).own

/-- the part of a node a call works on -/
structure Tab where
  compiled : Bool
  built : List (Def × Int)
  mm : MMap
  ana : Analysis

def Node.tab (x : Node) : Tab := ⟨x.compiled, x.built, x.mm, x.ana⟩

def Tab.view (t : Tab) : Fn := { defns := t.built, compiled := true, mm := t.mm, ana := t.ana }

def Graph.tb (g : Graph) : Nat → Tab := fun k => (g.get k).tab

def Graph.viewOf (g : Graph) (n : Nat) : Fn :=
  { defns := (g.get n).built, compiled := true, mm := (g.get n).mm, ana := (g.get n).ana }

theorem Graph.viewOf_eq (g : Graph) (n : Nat) : g.viewOf n = (g.tb n).view := rfl

theorem Graph.cp_of_tb {g g' : Graph} (h : g'.tb = g.tb) : g'.cp = g.cp := congrArg (fun t k => (t k).compiled) h
theorem Graph.bt_of_tb {g g' : Graph} (h : g'.tb = g.tb) : g'.bt = g.bt := congrArg (fun t k => (t k).built) h

theorem Graph.len_set (g : Graph) (n : Nat) (x : Node) : (g.set n x).len = g.len := by
  simp [Graph.set, Graph.len]

theorem Graph.get_of_ge (g : Graph) (k : Nat) (h : g.len ≤ k) : g.get k = default := by
  simp [Graph.get, List.getElem?_eq_none (show g.nodes.length ≤ k from h)]

theorem Graph.get_set (g : Graph) (n : Nat) (x : Node) (k : Nat) :
    (g.set n x).get k = if k = n ∧ n < g.len then x else g.get k := by
  unfold Graph.get Graph.set Graph.len
  simp only [List.getElem?_map, List.getElem?_zipIdx]
  cases hk : g.nodes[k]? with
  | none =>
    have : g.nodes.length ≤ k := by simpa using hk
    have h2 : ¬ (k = n ∧ n < g.nodes.length) := by omega
    simp [h2]
  | some y =>
    have : k < g.nodes.length := by
      rcases List.getElem?_eq_some_iff.mp hk with ⟨h, _⟩; exact h
    by_cases hkn : k = n
    · subst hkn; simp [this]
    · simp [hkn]

theorem Graph.get_set_self (g : Graph) (n : Nat) (x : Node) (h : n < g.len) : (g.set n x).get n = x := by
  rw [Graph.get_set, if_pos ⟨rfl, h⟩]

theorem Graph.get_set_ne (g : Graph) (n : Nat) (x : Node) (k : Nat) (h : k ≠ n) : (g.set n x).get k = g.get k := by
  rw [Graph.get_set, if_neg (fun hh => h hh.1)]

theorem Graph.proj_set_at {α : Type} (p : Node → α) (g : Graph) (n : Nat) (x : Node) (k : Nat) :
    p ((g.set n x).get k) = if k = n ∧ n < g.nodes.length then p x else p (g.get k) := by
  rw [Graph.get_set]; exact apply_ite p _ _ _

/-- meant for a literal `x := { g.get n with … }` (passed as `_`): `by rfl` runs once `x` is known -/
theorem Graph.proj_set {α : Type} (p : Node → α) (g : Graph) (n : Nat) (x : Node)
    (h : p x = p (g.get n) := by rfl) :
    (fun k => p ((g.set n x).get k)) = fun k => p (g.get k) := by
  funext k
  rw [Graph.proj_set_at p]
  split
  · next hk => rw [hk.1]; exact h
  · rfl

theorem Graph.proj_set_k {α : Type} (p : Node → α) (g : Graph) (n : Nat) (x : Node) (k : Nat)
    (h : p x = p (g.get n) := by rfl) : p ((g.set n x).get k) = p (g.get k) :=
  congrFun (Graph.proj_set p g n x h) k

theorem Graph.get_append (g : Graph) (x : Node) (k : Nat) :
    (Graph.mk (g.nodes ++ [x])).get k = if k = g.len then x else g.get k := by
  unfold Graph.get Graph.len
  by_cases hk : k < g.nodes.length
  · rw [List.getElem?_append_left hk, if_neg (by omega)]
  · by_cases hk2 : k = g.nodes.length
    · subst hk2; simp
    · rw [if_neg hk2, List.getElem?_eq_none (by simp; omega), List.getElem?_eq_none (by omega)]

theorem Graph.proj_append {α : Type} (p : Node → α) (g : Graph) (x : Node) (h : p x = p default := by rfl) :
    (fun k => p ((Graph.mk (g.nodes ++ [x])).get k)) = fun k => p (g.get k) := by
  funext k
  rw [Graph.get_append]
  split
  · next hk => rw [h, hk, Graph.get_of_ge g _ (Nat.le_refl _)]
  · rfl

theorem Graph.depth_eq (g : Graph) : g.depth = g.len + 1 := rfl

@[reducible] def Graph.dd (g : Graph) (n : Nat) : List (Def × Int) := g.defns g.depth n

structure Shape (g g' : Graph) : Prop where
  len : g'.len = g.len
  mx : g'.mx = g.mx
  ch : g'.ch = g.ch
  ow : g'.ow = g.ow

theorem Shape.refl (g : Graph) : Shape g g := ⟨rfl, rfl, rfl, rfl⟩
theorem Shape.trans {a b c : Graph} (h1 : Shape a b) (h2 : Shape b c) : Shape a c :=
  ⟨h2.len.trans h1.len, h2.mx.trans h1.mx, h2.ch.trans h1.ch, h2.ow.trans h1.ow⟩

theorem Graph.set_shape (g : Graph) (n : Nat) (x : Node) (hm : x.mixins = (g.get n).mixins := by rfl)
    (hc : x.children = (g.get n).children := by rfl) (ho : x.own = (g.get n).own := by rfl) : Shape g (g.set n x) :=
  ⟨Graph.len_set _ _ _, Graph.proj_set Node.mixins g n x hm, Graph.proj_set Node.children g n x hc,
    Graph.proj_set Node.own g n x ho⟩

structure Frame (g g' : Graph) : Prop where
  shape : Shape g g'
  tb : g'.tb = g.tb
  mono : ∀ k, g.lk k = true → g'.lk k = true

theorem Frame.refl (g : Graph) : Frame g g := ⟨Shape.refl g, rfl, fun _ h => h⟩
theorem Frame.trans {a b c : Graph} (h1 : Frame a b) (h2 : Frame b c) : Frame a c :=
  ⟨h1.shape.trans h2.shape, h2.tb.trans h1.tb, fun k h => h2.mono k (h1.mono k h)⟩

theorem Graph.set_locked_frame (g : Graph) (n : Nat) :
    Frame g (g.set n { g.get n with locked := true }) := by
  refine ⟨Graph.set_shape g n _, Graph.proj_set Node.tab g n _, fun k hk => ?_⟩
  show ((g.set n _).get k).locked = true
  rw [Graph.get_set]; split
  · rfl
  · exact hk

theorem Graph.lock_frame : ∀ (f : Nat) (g : Graph) (n : Nat), Frame g (Graph.lock f g n)
  | 0, g, _ => Frame.refl g
  | f + 1, g, n => by
    unfold Graph.lock
    exact (Graph.set_locked_frame g n).trans
      (foldl_preorder Frame Frame.refl (fun _ _ _ => Frame.trans) _ _ (fun a b _ => Graph.lock_frame f a b) _)

theorem Graph.lockUnlinked_frame : ∀ (f : Nat) (g : Graph) (n : Nat), Frame g (Graph.lockUnlinked f g n)
  | 0, g, _ => Frame.refl g
  | f + 1, g, n => by
    unfold Graph.lockUnlinked
    refine foldl_preorder Frame Frame.refl (fun _ _ _ => Frame.trans) _ _ (fun a b _ => ?_) _
    split
    · exact Graph.lockUnlinked_frame f a b
    · exact Graph.lock_frame f a b

theorem Graph.defns_succ (g : Graph) (f n : Nat) :
    g.defns (f + 1) n = overlay ((g.mx n).foldl (fun acc m => overlay acc (g.defns f m)) []) (g.ow n) := rfl

theorem Graph.defns_local (g g' : Graph) : ∀ (f n : Nat),
    (∀ x, x = n ∨ Anc g.mx x n → g'.ow x = g.ow x ∧ g'.mx x = g.mx x) → g'.defns f n = g.defns f n
  | 0, _, _ => rfl
  | f + 1, n, h => by
    rw [Graph.defns_succ, Graph.defns_succ, (h n (Or.inl rfl)).1, (h n (Or.inl rfl)).2]
    congr 1
    refine foldl_congr_mem _ _ _ (fun a m hm => ?_) _
    rw [Graph.defns_local g g' f m]
    intro x hx
    apply h
    rcases hx with rfl | hx
    · exact Or.inr (Anc.direct hm)
    · exact Or.inr (Anc.step hm hx)

theorem Shape.defns {g g' : Graph} (h : Shape g g') (k : Nat) : g'.defns g'.depth k = g.defns g.depth k := by
  rw [Graph.defns_local g g' _ k fun x _ => ⟨congrFun h.ow x, congrFun h.mx x⟩, Graph.depth_eq, h.len,
    ← Graph.depth_eq]

/-- the table `compile` puts into service: that of `Fn.built ds ana` -/
def Tab.Fresh (t : Tab) : Prop :=
  ∃ ds ana, analyze (ds.map (·.1.d)) = .ok ana ∧ t = ⟨true, ds, MMap.fresh (Fn.methsOf ds), ana⟩

def TUpd (g g' : Graph) : Prop := ∀ k, g'.tb k = g.tb k ∨ (g'.tb k).Fresh

structure Builds (g g' : Graph) : Prop where
  shape : Shape g g'
  tabs : TUpd g g'

theorem Builds.refl (g : Graph) : Builds g g := ⟨Shape.refl g, fun _ => Or.inl rfl⟩

theorem Builds.trans {a b c : Graph} (h1 : Builds a b) (h2 : Builds b c) : Builds a c :=
  ⟨h1.shape.trans h2.shape, fun k => (h2.tabs k).elim (fun h => h ▸ h1.tabs k) Or.inr⟩

def Graph.setTab (g : Graph) (n : Nat) (t : Tab) : Graph :=
  g.set n { g.get n with compiled := t.compiled, mm := t.mm, ana := t.ana, built := t.built }

theorem Graph.setTab_shape (g : Graph) (n : Nat) (t : Tab) : Shape g (g.setTab n t) :=
  Graph.set_shape g n _

theorem Graph.setTab_lk (g : Graph) (n : Nat) (t : Tab) : (g.setTab n t).lk = g.lk :=
  Graph.proj_set Node.locked g n _

theorem Graph.setTab_tb (g : Graph) (n : Nat) (t : Tab) (k : Nat) :
    (g.setTab n t).tb k = if k = n ∧ n < g.len then t else g.tb k :=
  Graph.proj_set_at Node.tab g n _ k

theorem Graph.compile_eq (g : Graph) (n : Nat) :
    g.compile n =
      match analyze ((g.defns g.depth n).map (·.1.d)) with
      | .error e => (Graph.lockUnlinked g.depth g n, some e)
      | .ok ana =>
        ((Graph.lockUnlinked g.depth g n).setTab n
          ⟨true, g.defns g.depth n, MMap.fresh (Fn.methsOf (g.defns g.depth n)), ana⟩, none) := by
  unfold Graph.compile
  dsimp only
  rw [(Graph.lockUnlinked_frame _ g n).shape.defns]
  rfl

theorem Graph.compile_builds (g : Graph) (n : Nat) : Builds g (g.compile n).1 := by
  have hf := Graph.lockUnlinked_frame (g.nodes.length + 1) g n
  rw [Graph.compile_eq]
  split
  · exact ⟨hf.shape, fun k => Or.inl (congrFun hf.tb k)⟩
  · next ana ha =>
    refine ⟨hf.shape.trans (Graph.setTab_shape _ n _), fun k => ?_⟩
    rw [Graph.setTab_tb]
    split
    · exact Or.inr ⟨_, ana, ha, rfl⟩
    · exact Or.inl (congrFun hf.tb k)

/-- the build at the head of `_update()` (when the function is in use) and of `call` (when it is not yet) -/
def Graph.compileIf (b : Bool) (g : Graph) (n : Nat) : Graph × Option CfgErr := if b then g.compile n else (g, none)

theorem Graph.compileIf_true (g : Graph) (n : Nat) : g.compileIf true n = g.compile n := by
  unfold Graph.compileIf; exact if_pos rfl

theorem Graph.compileIf_builds (b : Bool) (g : Graph) (n : Nat) : Builds g (g.compileIf b n).1 := by
  unfold Graph.compileIf
  split
  · exact Graph.compile_builds g n
  · exact Builds.refl g

theorem Graph.compileIf_tb_ne (b : Bool) (g : Graph) (n k : Nat) (h : k ≠ n) : (g.compileIf b n).1.tb k = g.tb k := by
  unfold Graph.compileIf
  split
  · rw [Graph.compile_eq]
    have ht := congrFun (Graph.lockUnlinked_frame (g.nodes.length + 1) g n).tb k
    split
    · exact ht
    · exact (Graph.setTab_tb _ n _ k).trans ((if_neg fun hh => h hh.1).trans ht)
  · rfl

theorem Graph.update_succ (f : Nat) (g : Graph) (n : Nat) :
    Graph.update (f + 1) g n =
      ((g.compileIf (g.get n).compiled n).1.get n).children.foldl
        (fun (acc : Graph × Option CfgErr) c =>
          ((Graph.update f acc.1 c).1, match acc.2 with | some e => some e | none => (Graph.update f acc.1 c).2))
        (g.compileIf (g.get n).compiled n) := by
  conv => lhs; unfold Graph.update
  rfl

theorem Graph.update_builds : ∀ (f : Nat) (g : Graph) (n : Nat), Builds g (Graph.update f g n).1
  | 0, g, _ => Builds.refl g
  | f + 1, g, n => by
    rw [Graph.update_succ]
    refine (Graph.compileIf_builds _ g n).trans
      (foldl_preorder (fun a b : Graph × Option CfgErr => Builds a.1 b.1) (fun _ => Builds.refl _) (fun _ _ _ => Builds.trans)
        _ _ (fun a c _ => ?_) _)
    exact Graph.update_builds f a.1 c

end Ovld

import Ovldverif.Lemmas.CacheInv
/-!
# The pure lookup as a function of the rank list (any plan)

The publication loop stores rank `j + 1` under the continuation keys of the codes of rank `j`, as long as every
rank so far has a callable and a code (`nextRank`); under `PlanOK` no key is written twice, so a continuation key
reads back the rank stored there (`pureNext_eq`).
-/
set_option autoImplicit false
namespace Ovld

section
variable {K F E : Type}

/-- the rank stored under the continuation key of `c` by the rounds of the loop that publish `rs`, the first of
    them under the codes `ps` -/
def nextRank : List (Rank F E) → List Code → Code → Option (Rank F E)
  | [], _, _ => none
  | r :: rs, ps, c => if c ∈ ps then some r else if r.live then nextRank rs r.codes c else none

theorem nextRank_cons (r : Rank F E) (rs : List (Rank F E)) (ps : List Code) (c : Code) :
    nextRank (r :: rs) ps c = if c ∈ ps then some r else if r.live then nextRank rs r.codes c else none := rfl

theorem nextRank_cons_eq_some {r r' : Rank F E} {rs : List (Rank F E)} {ps : List Code} {c : Code} :
    nextRank (r :: rs) ps c = some r' ↔
      (c ∈ ps ∧ r = r') ∨ (c ∉ ps ∧ r.live = true ∧ nextRank rs r.codes c = some r') := by
  rw [nextRank_cons]
  by_cases hc : c ∈ ps
  · simp [hc]
  · cases hl : r.live <;> simp [hc]

theorem nextRank_mem {c : Code} {r : Rank F E} {rs : List (Rank F E)} {ps : List Code}
    (h : nextRank rs ps c = some r) : r ∈ rs := by
  induction rs generalizing ps with
  | nil => cases h
  | cons r0 rs ih =>
    rcases nextRank_cons_eq_some.mp h with ⟨_, rfl⟩ | ⟨_, _, h⟩
    · exact List.mem_cons_self
    · exact List.mem_cons_of_mem _ (ih h)

theorem nextRank_written (k : K) (c : Code) (r : Rank F E) (rs : List (Rank F E)) (ps : List Code)
    (h : nextRank rs ps c = some r) : (wOf r (some c, k) : W K F E) ∈ writes k rs ps := by
  induction rs generalizing ps with
  | nil => cases h
  | cons r0 rs ih =>
    rw [writes_cons]
    rcases nextRank_cons_eq_some.mp h with ⟨hc, rfl⟩ | ⟨_, hl, h⟩
    · exact List.mem_append_left _ (List.mem_map.mpr ⟨_, (mem_tups_some k ps c).mpr hc, rfl⟩)
    · rw [hl]; exact List.mem_append_right _ (ih _ h)

theorem written_nextRank (k : K) (c : Code) (w : W K F E) (hk : w.key = (some c, k)) (rs : List (Rank F E))
    (ps : List Code) (hw : w ∈ writes k rs ps) : ∃ r, nextRank rs ps c = some r := by
  induction rs generalizing ps with
  | nil => cases hw
  | cons r0 rs ih =>
    by_cases hc : c ∈ ps
    · exact ⟨r0, nextRank_cons_eq_some.mpr (Or.inl ⟨hc, rfl⟩)⟩
    · rw [writes_cons] at hw
      rcases List.mem_append.mp hw with hw | hw
      · obtain ⟨t, ht, rfl⟩ := List.mem_map.mp hw
        rw [wOf_key] at hk
        exact absurd ((mem_tups_some k ps c).mp (hk ▸ ht)) hc
      · cases hl : r0.live with
        | false => rw [hl] at hw; cases hw
        | true =>
          rw [hl] at hw
          exact (ih _ hw).imp fun r h => nextRank_cons_eq_some.mpr (Or.inr ⟨hc, hl, h⟩)

/-- `call_next` from a handler of `r` finds the rank after `r`, provided the loop got that far: `Nodup` puts `c` in
    none of the earlier parent lists, so the walk passes `above`, misses at `r` and hits at the head of `below` -/
theorem nextRank_split (c : Code) (r : Rank F E) (below : List (Rank F E)) (hl : r.live = true)
    (hc : c ∈ r.codes) (above : List (Rank F E)) (ps : List Code) (hlive : ∀ r' ∈ above, r'.live = true)
    (nd : (ps ++ rankCodes (above ++ r :: below)).Nodup) : nextRank (above ++ r :: below) ps c = below.head? := by
  induction above generalizing ps with
  | nil =>
    rw [List.nil_append, rankCodes_cons] at nd
    have hcps : c ∉ ps := fun h => (List.nodup_append.1 nd).2.2 c h c (List.mem_append_left _ hc) rfl
    rw [List.nil_append, nextRank_cons, if_neg hcps, hl]
    cases below with
    | nil => rfl
    | cons r1 _ => exact if_pos hc
  | cons a above ih =>
    rw [List.cons_append, rankCodes_cons] at nd
    have hcR : c ∈ rankCodes (above ++ r :: below) := List.mem_flatMap.mpr ⟨r, by simp, hc⟩
    have hcps : c ∉ ps := fun h => (List.nodup_append.1 nd).2.2 c h c (List.mem_append_right _ hcR) rfl
    rw [List.cons_append, nextRank_cons, if_neg hcps, hlive a List.mem_cons_self]
    exact ih a.codes (fun r' hr' => hlive r' (List.mem_cons_of_mem _ hr')) (List.nodup_append.1 nd).2.1

variable [DecidableEq K] (plan : K → Plan F E)

theorem pureNext_eq (ok : PlanOK plan) (k : K) (c : Code) (f : F) (htop : pureTop plan k = .ok f)
    (hc : c ∈ (plan k).allCodes) : pureNext plan c k = resOfRank (nextRank (plan k).ranks [] c) := by
  rw [pureNext_of_top plan htop, List.contains_iff_mem.mpr hc]
  simp only [Bool.not_true, Bool.false_eq_true, if_false]
  cases hn : nextRank (plan k).ranks [] c with
  | none =>
    have hno : ∀ w ∈ ws plan k, w.key ≠ (some c, k) := fun w hw hk => by
      obtain ⟨r, hr⟩ := written_nextRank k c w hk _ _ ((mem_ws plan k w).mp hw)
      rw [hn] at hr
      cases hr
    rw [lastE_none_of_not_mem fun e he => hno _ he rfl, lastC_none_of_not_mem fun g hg => hno _ hg rfl]
    rfl
  | some r =>
    have hm := (mem_ws plan k _).mpr (nextRank_written k c r _ _ hn)
    exact read_written_once _ r _ _ hm fun w hw e =>
      eq_of_nodup_map W.key (ws_keys_nodup plan ok k) hw hm (e.trans (wOf_key r _).symm)

/-- **one rank at a time**, any plan: when the loop got as far as `r`, the continuation key of a code of `r` resolves
    to the rank after `r` -/
theorem step_split (ok : PlanOK plan) (k : K) (c : Code) (above : List (Rank F E)) (r : Rank F E)
    (below : List (Rank F E)) (hr : (plan k).ranks = above ++ r :: below) (hfail : (plan k).fail = false)
    (hlive : ∀ r' ∈ above, r'.live = true) (hf : r.func.isSome = true) (hc : c ∈ r.codes) :
    pureNext plan c k = resOfRank below.head? := by
  have hcR : c ∈ rankCodes (plan k).ranks := by
    rw [hr]; exact List.mem_flatMap.mpr ⟨r, by simp, hc⟩
  obtain ⟨r0, f0, h0, hf0⟩ : ∃ r0 f0, (plan k).ranks[0]? = some r0 ∧ r0.func = some f0 := by
    rw [hr]
    cases above with
    | nil => exact ⟨r, _, rfl, Option.some_get hf |>.symm⟩
    | cons a _ => exact ⟨a, _, rfl, Option.some_get (Bool.and_eq_true_iff.mp (hlive a List.mem_cons_self)).1 |>.symm⟩
  have htop : pureTop plan k = .ok f0 := by
    rw [pureTop_eq_resOfRank plan k hfail, h0, resOfRank_some, hf0]
  rw [pureNext_eq plan ok k c f0 htop (ok.codes_sub k c hcR), hr,
    nextRank_split c r below (Rank.live_of_mem hf hc) hc above [] hlive (by simpa [← hr] using ok.codes_nodup k)]

theorem pureNext_fresh (k : K) (c : Code) (h : (plan k).allCodes.contains c = false) :
    pureNext plan c k = pureTop plan k := by
  cases hp : pureTop plan k with
  | ok f => rw [pureNext_of_top plan hp, h]; rfl
  | _ => unfold pureNext; rw [hp]

theorem pureTop_ok_fail {k : K} {f : F} (h : pureTop plan k = .ok f) : (plan k).fail = false := by
  cases hf : (plan k).fail with
  | false => rfl
  | true => simp [pureTop, hf] at h

theorem pureLookup_ok_rank (ok : PlanOK plan) (c : Option Code) (k : K) (f : F)
    (h : pureLookup plan (c, k) = .ok f) : ∃ r ∈ (plan k).ranks, r.func = some f := by
  have top : pureTop plan k = .ok f → ∃ r ∈ (plan k).ranks, r.func = some f := by
    intro ht
    rw [pureTop_eq_resOfRank plan k (pureTop_ok_fail plan ht)] at ht
    obtain ⟨r, hr, hfn⟩ := resOfRank_eq_ok ht
    exact ⟨r, List.mem_of_getElem? hr, hfn⟩
  cases c with
  | none => exact top h
  | some c =>
    change pureNext plan c k = .ok f at h
    cases ht : pureTop plan k with
    | ok g =>
      cases hc : (plan k).allCodes.contains c with
      | false => rw [pureNext_fresh plan k c hc] at h; exact top h
      | true =>
        rw [pureNext_eq plan ok k c g ht (List.contains_iff_mem.mp hc)] at h
        obtain ⟨r, hr, hfn⟩ := resOfRank_eq_ok h
        exact ⟨r, nextRank_mem hr, hfn⟩
    | _ => simp [pureNext, ht] at h

end
end Ovld

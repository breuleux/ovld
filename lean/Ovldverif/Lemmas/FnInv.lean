import Ovldverif.Spec.Runs
import Ovldverif.Lemmas.LookupSpec
import Ovldverif.Lemmas.PlanOK
/-!
# Invariants of the public table (`MMap`) and of the function object (`Fn`) under lookups / calls

`MInv` / `FInv` lift `CInv`; `lookThen` is the one lookup-and-go-on step of a call; `RunRel` relates two executions
of the same step from two states satisfying `FInv`, and `call_rel` carries C04, C05 and C20.
-/
set_option autoImplicit false
namespace Ovld

theorem DistinctHandlers.planOK {ms : List Meth} (hd : DistinctHandlers ms) (cfg : Cfg) : PlanOK (plan cfg ms) :=
  plan_ok cfg ms hd.ids hd.codes

structure MInv (cfg : Cfg) (ms : List Meth) (mm : MMap) : Prop where
  meths : mm.meths = ms
  inv : CInv (plan cfg ms) mm.st

/-- what `table[ck]` returns, as a function of the registered entries only -/
def MMap.pure (cfg : Cfg) (ms : List Meth) (ck : CKey Key) : Res Entry (List Nat) :=
  pureLookup (plan cfg ms) ck

theorem MMap.lookup_spec (cfg : Cfg) (ms : List Meth) (ok : PlanOK (plan cfg ms))
    (mm : MMap) (h : MInv cfg ms mm) (ck : CKey Key) :
    (mm.lookup cfg ck).2 = MMap.pure cfg ms ck ∧ MInv cfg ms (mm.lookup cfg ck).1 := by
  obtain ⟨hm, hi⟩ := h
  subst hm
  have hs := Ovld.lookup_spec (plan cfg mm.meths) ok mm.st ck hi
  exact ⟨hs.1, rfl, hs.2⟩

theorem MMap.lookupCut_inv (cfg : Cfg) (ms : List Meth) (ok : PlanOK (plan cfg ms))
    (mm : MMap) (h : MInv cfg ms mm) (ck : CKey Key) (n : Nat) : MInv cfg ms (mm.lookupCut cfg ck n) := by
  obtain ⟨hm, hi⟩ := h
  subst hm
  exact ⟨rfl, Ovld.lookupCut_inv (plan cfg mm.meths) ok mm.st ck n hi⟩

/-- `mm2` resolves at most where `mm1` does -/
def MMap.Le (cfg : Cfg) (mm1 mm2 : MMap) : Prop :=
  ∀ ck, mm1.resolvesAt cfg ck = false → mm2.resolvesAt cfg ck = false

theorem MMap.Le.refl (cfg : Cfg) (mm : MMap) : MMap.Le cfg mm mm := fun _ h => h

theorem MMap.Le.trans {cfg : Cfg} {a b c : MMap} (h1 : MMap.Le cfg a b) (h2 : MMap.Le cfg b c) :
    MMap.Le cfg a c := fun ck h => h2 ck (h1 ck h)

theorem MMap.lookup_le (cfg : Cfg) (ms : List Meth) (ok : PlanOK (plan cfg ms))
    (mm : MMap) (h : MInv cfg ms mm) (ck' : CKey Key) : MMap.Le cfg mm (mm.lookup cfg ck').1 := by
  obtain ⟨hm, hi⟩ := h
  subst hm
  exact fun ck hck => resolves_ext _ (lookup_ok (plan cfg mm.meths) ok mm.st ck' hi).1 hck

theorem MMap.warm_of_lookup_eq_ok (cfg : Cfg) (mm : MMap) (ck : CKey Key) (f : Entry)
    (hok : (mm.lookup cfg ck).2 = .ok f) : (mm.lookup cfg ck).1.resolvesAt cfg ck = false :=
  Ovld.warm_of_lookup_eq_ok (plan cfg mm.meths) mm.st ck f hok

theorem MMap.fresh_append (ms : List Meth) (m : Meth) :
    MMap.fresh (ms ++ [m]) = (MMap.fresh ms).register m := by
  unfold MMap.fresh
  rw [List.foldl_append]
  rfl

/-- a registration turns ANY state satisfying the invariant for `ms0` into one satisfying it for `ms0 ++ [m]`:
    nothing cached survives (`StBlank.of_cleared`) -/
theorem MMap.register_inv (cfg : Cfg) (ms0 : List Meth) (m : Meth) (mm : MMap)
    (h : MInv cfg ms0 mm) :
    MInv cfg (ms0 ++ [m]) (mm.register m) := by
  refine ⟨?_, (StBlank.of_cleared mm.st).inv _⟩
  show mm.meths ++ [m] = ms0 ++ [m]
  rw [h.meths]

theorem MMap.fresh_inv (cfg : Cfg) (ms : List Meth) : MInv cfg ms (MMap.fresh ms) := by
  induction ms using list_snoc_induction with
  | h0 => exact ⟨rfl, StBlank.empty.inv _⟩
  | h1 ms m ih => rw [MMap.fresh_append]; exact MMap.register_inv cfg ms m _ ih

theorem MMap.runLookups_inv (cfg : Cfg) (ms : List Meth) (ok : PlanOK (plan cfg ms)) :
    ∀ (hist : List (CKey Key)) (mm : MMap), MInv cfg ms mm →
      MInv cfg ms (mm.runLookups cfg hist) ∧ MMap.Le cfg mm (mm.runLookups cfg hist)
  | [], mm, h => ⟨h, MMap.Le.refl cfg mm⟩
  | ck :: rest, mm, h =>
    have h1 := (MMap.lookup_spec cfg ms ok mm h ck).2
    have h2 := MMap.runLookups_inv cfg ms ok rest _ h1
    ⟨h2.1, (MMap.lookup_le cfg ms ok mm h ck).trans h2.2⟩

/-- a table in any state satisfying the invariant answers like the table on which the same entries are registered
    and nothing has been looked up (C04 / C05 / C18, table level) -/
theorem MInv.lookup_eq_fresh {cfg : Cfg} {ms : List Meth} {mm : MMap} (h : MInv cfg ms mm)
    (hd : DistinctHandlers ms) (ck : CKey Key) :
    (mm.lookup cfg ck).2 = ((MMap.fresh ms).lookup cfg ck).2 := by
  have ok := hd.planOK cfg
  rw [(MMap.lookup_spec cfg ms ok _ h ck).1, (MMap.lookup_spec cfg ms ok _ (MMap.fresh_inv cfg ms) ck).1]

theorem MMap.lookup_after (cfg : Cfg) (ms : List Meth) (hd : DistinctHandlers ms) (hist : List (CKey Key))
    (ck : CKey Key) :
    (((MMap.fresh ms).runLookups cfg hist).lookup cfg ck).2 = pureLookup (plan cfg ms) ck :=
  have ok := hd.planOK cfg
  (MMap.lookup_spec cfg ms ok _ (MMap.runLookups_inv cfg ms ok hist _ (MMap.fresh_inv cfg ms)).1 ck).1

structure FInv (cfg : Cfg) (ds : List (Def × Int)) (ana : Analysis) (fn : Fn) : Prop where
  defns : fn.defns = ds
  compiled : fn.compiled = true
  ana : fn.ana = ana
  mm : MInv (Fn.cfgOf cfg ds) (Fn.methsOf ds) fn.mm

abbrev Result := Fn × Outcome × Trace × Nat

/-- one table lookup of a call, followed by the continuation `k` on success: the shape of a delegating method body
    (`runEntry_meth`, key by `bodyKey`) and of the first lookup of `Fn.call` (`Fn.call_compiled`) -/
def lookThen (cfg : Cfg) (k : Fn → Entry → Result) (fn : Fn) (tr : Trace) (ck : CKey Key) : Result :=
  let nr := if fn.mm.resolvesAt (Fn.cfgOf cfg fn.defns) ck then 1 else 0
  let fn' := { fn with mm := (fn.mm.lookup (Fn.cfgOf cfg fn.defns) ck).1 }
  match (fn.mm.lookup (Fn.cfgOf cfg fn.defns) ck).2 with
  | .ok e' => ((k fn' e').1, (k fn' e').2.1, tr ++ (k fn' e').2.2.1, nr + (k fn' e').2.2.2)
  | r => (fn', resOutcome r, tr, nr)

/-- which lookup a method body performs, if any -/
def bodyKey (df : Def) (id : Nat) : Option (Option Nat × List ArgSrc × Bool) :=
  match df.body with
  | .ret => none
  | .callNext srcs => some (some (codeOfHandle df id), srcs, false)
  | .recurse srcs => some (none, srcs, false)
  | .next srcs => some (some (codeOfHandle df id), srcs, true)

theorem runEntry_zero (cfg : Cfg) (fn : Fn) (e : Entry) (x : Dispatch) (d : Nat) :
    runEntry cfg 0 fn e x d = (fn, .depth, [], 0) := rfl

/-- what the generated dependent dispatcher of a `.dep hs _` entry answers on the forwarded arguments; it reads
    the declared types of the handlers from the registered entries only -/
def depRes (cfg : Cfg) (meths : List Meth) (hs : List Nat) (x : Dispatch) : DRes :=
  dispatch cfg.dworld (x.key.map (·.1))
    (hs.map (fun h => (h, ((meths.find? (fun m => m.id == h)).map (·.params)).getD [])))
    ((x.passPos.zipIdx.map (fun (a, i) => (Slot.pos i, a.val))) ++ (x.passKw.map (fun (n, a) => (Slot.kw n, a.val))))

theorem runEntry_dep (cfg : Cfg) (f : Nat) (fn : Fn) (hs : List Nat) (nx : Entry) (x : Dispatch) (d : Nat) :
    runEntry cfg (f + 1) fn (.dep hs nx) x d =
      match depRes cfg fn.mm.meths hs x with
      | .handler h => runEntry cfg f fn (.meth h) x d
      | .fallthrough =>
        (match nx with
         | .noNext => (fn, .noMethod, [], 0)
         | .ambNext ids => (fn, .ambiguous ids, [], 0)
         | e' => runEntry cfg f fn e' x d)
      | .ambiguous => (fn, .ambiguous hs, [], 0)
      | .raised => (fn, .raised, [], 0) := by
  cases nx <;> rfl

theorem runEntry_noNext (cfg : Cfg) (f : Nat) (fn : Fn) (x : Dispatch) (d : Nat) :
    runEntry cfg (f + 1) fn .noNext x d = (fn, .noMethod, [], 0) := rfl

theorem runEntry_ambNext (cfg : Cfg) (f : Nat) (fn : Fn) (ids : List Nat) (x : Dispatch) (d : Nat) :
    runEntry cfg (f + 1) fn (.ambNext ids) x d = (fn, .ambiguous ids, [], 0) := rfl

theorem runEntry_meth (cfg : Cfg) (f : Nat) (fn : Fn) (id : Nat) (x : Dispatch) (depth : Nat) :
    runEntry cfg (f + 1) fn (.meth id) x depth =
      match findDef fn id with
      | none => (fn, .keyError, [], 0)
      | some df =>
        match methodBind df.d x with
        | none => (fn, .methodBindError, [], 0)
        | some _ =>
          let tr : Trace := [(df.d.id, x.passPos.map (·.vid), x.passKw.map (fun p => (p.1, p.2.vid)))]
          match bodyKey df id with
          | none => (fn, .ran df.d.id, tr, 0)
          | some (ck, srcs, subtler) =>
            if depth ≥ depthLimit then (fn, .depth, tr, 0) else
            lookThen cfg
              (fun fn' e' => runEntry cfg f fn' e'
                { key := keyOfArgs fn.ana subtler (evalArgs x.passPos srcs),
                  passPos := evalArgs x.passPos srcs, passKw := [] } (depth + 1))
              fn tr (ck, keyOfArgs fn.ana subtler (evalArgs x.passPos srcs)) := by
  -- by reduction: `rw [runEntry]` proves its equation lemmas first
  conv => lhs; whnf
  cases findDef fn id with
  | none => rfl
  | some df =>
    dsimp only
    cases methodBind df.d x with
    | none => rfl
    | some _ =>
      dsimp only [bodyKey]
      cases df.body <;> rfl

theorem resOutcome_not_ran (r : Res Entry (List Nat)) (id : Nat) (h : ∀ e, r ≠ .ok e) : resOutcome r ≠ .ran id := by
  cases r <;> simp [resOutcome] at h ⊢

/-- `lookThen` with `Fn.cfgOf cfg fn.defns` written as `Fn.cfgOf cfg ds` -/
theorem lookThen_eq (cfg : Cfg) (ds : List (Def × Int)) (k : Fn → Entry → Result) (fn : Fn) (hd : fn.defns = ds)
    (tr : Trace) (ck : CKey Key) :
    lookThen cfg k fn tr ck =
      let nr := if fn.mm.resolvesAt (Fn.cfgOf cfg ds) ck then 1 else 0
      let fn' := { fn with mm := (fn.mm.lookup (Fn.cfgOf cfg ds) ck).1 }
      match (fn.mm.lookup (Fn.cfgOf cfg ds) ck).2 with
      | .ok e' => ((k fn' e').1, (k fn' e').2.1, tr ++ (k fn' e').2.2.1, nr + (k fn' e').2.2.2)
      | r => (fn', resOutcome r, tr, nr) := by
  subst hd; rfl

/-- two executions of the same step from two states satisfying the invariant: same outcome, same trace, both
    final states satisfy the invariant and are at least as warm as the initial ones; and if the first
    execution ran a method to completion and the second starts at least as warm as the first ended, the
    second resolves nothing -/
structure RunRel (cfg : Cfg) (ds : List (Def × Int)) (ana : Analysis)
    (fn1 fn2 : Fn) (r1 r2 : Result) : Prop where
  inv1 : FInv cfg ds ana r1.1
  inv2 : FInv cfg ds ana r2.1
  outcome : r1.2.1 = r2.2.1
  trace : r1.2.2.1 = r2.2.2.1
  le1 : MMap.Le (Fn.cfgOf cfg ds) fn1.mm r1.1.mm
  le2 : MMap.Le (Fn.cfgOf cfg ds) fn2.mm r2.1.mm
  warm : ∀ id, r1.2.1 = .ran id → MMap.Le (Fn.cfgOf cfg ds) r1.1.mm fn2.mm → r2.2.2.2 = 0

/-- the relation for results given as tuples with the same outcome and trace (stated for variables: with the
    concrete results of `lookThen` in their place, checking the two `rfl`s first tries to identify the final states) -/
theorem RunRel.tuples {cfg : Cfg} {ds : List (Def × Int)} {ana : Analysis} {fn1 fn2 a b : Fn} {o : Outcome}
    {t : Trace} {n m : Nat} (ha : FInv cfg ds ana a) (hb : FInv cfg ds ana b)
    (la : MMap.Le (Fn.cfgOf cfg ds) fn1.mm a.mm) (lb : MMap.Le (Fn.cfgOf cfg ds) fn2.mm b.mm)
    (w : ∀ id, o = .ran id → MMap.Le (Fn.cfgOf cfg ds) a.mm fn2.mm → m = 0) :
    RunRel cfg ds ana fn1 fn2 (a, o, t, n) (b, o, t, m) :=
  ⟨ha, hb, rfl, rfl, la, lb, w⟩

theorem RunRel.triv {cfg : Cfg} {ds : List (Def × Int)} {ana : Analysis} {fn1 fn2 : Fn}
    (h1 : FInv cfg ds ana fn1) (h2 : FInv cfg ds ana fn2) {o : Outcome} {t : Trace} :
    RunRel cfg ds ana fn1 fn2 (fn1, o, t, 0) (fn2, o, t, 0) :=
  RunRel.tuples h1 h2 (MMap.Le.refl _ _) (MMap.Le.refl _ _) fun _ _ _ => rfl

theorem FInv.setMM {cfg : Cfg} {ds : List (Def × Int)} {ana : Analysis} {fn : Fn}
    (h : FInv cfg ds ana fn) (mm : MMap) (hm : MInv (Fn.cfgOf cfg ds) (Fn.methsOf ds) mm) :
    FInv cfg ds ana { fn with mm := mm } :=
  ⟨h.defns, h.compiled, h.ana, hm⟩

theorem Fn.call_compiled (cfg : Cfg) (fn : Fn) (hc : fn.compiled = true) (c : Call) :
    fn.call cfg c =
      match entry fn.ana c with
      | .error _ => (fn, .bindError, [], 0)
      | .ok x => lookThen cfg (fun fn' e => runEntry cfg 64 fn' e x 1) fn [] (none, x.key) := by
  unfold Fn.call
  rw [hc]
  simp only [↓reduceIte]
  cases entry fn.ana c with
  | error _ => rfl
  | ok x =>
    dsimp only [lookThen]
    cases (fn.mm.lookup (Fn.cfgOf cfg fn.defns) (none, x.key)).2 <;> rfl

/-- the case tree of `runEntry`, for two runs from states `a`, `b` related by `I`, which makes them take the same
    branches -/
theorem runEntry_cases2 (cfg : Cfg) (I : Fn → Fn → Prop) (P : Fn → Fn → Result → Result → Prop)
    (hI : ∀ a b, I a b → a.mm.meths = b.mm.meths ∧ a.defns = b.defns ∧ a.ana = b.ana)
    (triv : ∀ a b o t, I a b → P a b (a, o, t, 0) (b, o, t, 0))
    (look : ∀ k a b tr ck, I a b → (∀ a' b' e, I a' b' → P a' b' (k a' e) (k b' e)) →
      P a b (lookThen cfg k a tr ck) (lookThen cfg k b tr ck)) :
    ∀ f a b e x d, I a b → P a b (runEntry cfg f a e x d) (runEntry cfg f b e x d) := by
  intro f
  induction f with
  | zero => intro a b e x d i; exact triv _ _ _ _ i
  | succ f ih =>
    intro a b e x d i
    obtain ⟨hm, hds, han⟩ := hI a b i
    cases e with
    | dep hs nx =>
      -- the dispatcher reads the registered entries only and performs no lookup
      rw [runEntry_dep, runEntry_dep, hm]
      cases depRes cfg b.mm.meths hs x with
      | handler h => exact ih a b (.meth h) x d i
      | fallthrough =>
        cases nx with
        | meth id => exact ih a b (.meth id) x d i
        | dep hs' nx' => exact ih a b (.dep hs' nx') x d i
        | _ => exact triv _ _ _ _ i
      | _ => exact triv _ _ _ _ i
    | noNext => rw [runEntry_noNext, runEntry_noNext]; exact triv _ _ _ _ i
    | ambNext ids => rw [runEntry_ambNext, runEntry_ambNext]; exact triv _ _ _ _ i
    | meth id =>
      rw [runEntry_meth, runEntry_meth, findDef, findDef, hds, han]
      cases b.defns[id]?.map (·.1) with
      | none => exact triv _ _ _ _ i
      | some df =>
        dsimp only
        cases methodBind df.d x with
        | none => exact triv _ _ _ _ i
        | some _ =>
          dsimp only
          cases bodyKey df id with
          | none => exact triv _ _ _ _ i
          | some p =>
            obtain ⟨ck, srcs, subtler⟩ := p
            dsimp only
            by_cases hd : d ≥ depthLimit
            · rw [if_pos hd, if_pos hd]; exact triv _ _ _ _ i
            · rw [if_neg hd, if_neg hd]
              exact look _ a b _ _ i fun a' b' e' i' => ih a' b' e' _ _ i'

/-- the case tree for properties of one run: both runs the same -/
theorem runEntry_cases (cfg : Cfg) (P : Fn → Result → Prop) (triv : ∀ fn o t, P fn (fn, o, t, 0))
    (look : ∀ k fn tr ck, (∀ fn' e, P fn' (k fn' e)) → P fn (lookThen cfg k fn tr ck)) (f : Nat) (fn : Fn) (e : Entry)
    (x : Dispatch) (d : Nat) : P fn (runEntry cfg f fn e x d) :=
  runEntry_cases2 cfg Eq (fun a _ r _ => P a r) (fun _ _ h => h ▸ ⟨rfl, rfl, rfl⟩) (fun a _ o t _ => triv a o t)
    (fun k a _ tr ck _ h => look k a tr ck fun a' e' => h a' a' e' rfl) f fn fn e x d rfl

theorem Fn.call_mm (cfg : Cfg) (fn : Fn) (hc : fn.compiled = true) (c : Call) :
    (fn.call cfg c).1 = { fn with mm := (fn.call cfg c).1.mm } := by
  have look : ∀ k fn tr ck, (∀ fn' e, (k fn' e).1 = { fn' with mm := (k fn' e).1.mm }) →
      (lookThen cfg k fn tr ck).1 = { fn with mm := (lookThen cfg k fn tr ck).1.mm } := by
    intro k fn tr ck hk
    unfold lookThen
    dsimp only
    split
    · exact hk _ _
    · rfl
  rw [Fn.call_compiled cfg fn hc]
  cases entry fn.ana c with
  | error _ => rfl
  | ok x =>
    exact look _ fn _ _ (runEntry_cases cfg (fun fn r => r.1 = { fn with mm := r.1.mm }) (fun _ _ _ => rfl) look 64 · · x 1)

section
variable (cfg : Cfg) (ds : List (Def × Int)) (ana : Analysis)
  (ok : PlanOK (plan (Fn.cfgOf cfg ds) (Fn.methsOf ds)))
include ok

theorem lookThen_rel (k : Fn → Entry → Result)
    (hk : ∀ fn1 fn2 e, FInv cfg ds ana fn1 → FInv cfg ds ana fn2 →
      RunRel cfg ds ana fn1 fn2 (k fn1 e) (k fn2 e))
    (fn1 fn2 : Fn) (h1 : FInv cfg ds ana fn1) (h2 : FInv cfg ds ana fn2) (tr : Trace) (ck : CKey Key) :
    RunRel cfg ds ana fn1 fn2 (lookThen cfg k fn1 tr ck) (lookThen cfg k fn2 tr ck) := by
  have s1 := MMap.lookup_spec _ _ ok fn1.mm h1.mm ck
  have s2 := MMap.lookup_spec _ _ ok fn2.mm h2.mm ck
  have l1 := MMap.lookup_le _ _ ok fn1.mm h1.mm ck
  have l2 := MMap.lookup_le _ _ ok fn2.mm h2.mm ck
  have w1 := MMap.warm_of_lookup_eq_ok (Fn.cfgOf cfg ds) fn1.mm ck
  have i1 := h1.setMM _ s1.2
  have i2 := h2.setMM _ s2.2
  cases hr : MMap.pure (Fn.cfgOf cfg ds) (Fn.methsOf ds) ck with
  | ok e' =>
    have r1 := s1.1.trans hr
    have r2 := s2.1.trans hr
    rw [lookThen_eq cfg ds k fn1 h1.defns, lookThen_eq cfg ds k fn2 h2.defns, r1, r2]
    have hh := hk _ _ e' i1 i2
    refine ⟨hh.inv1, hh.inv2, hh.outcome, ?_, l1.trans hh.le1, l2.trans hh.le2, ?_⟩
    · show tr ++ _ = tr ++ _
      rw [hh.trace]
    · -- the key is warm after run 1 (`w1`) and stays so (`hh.le1`); run 2 starts at least as warm (`hle`), so it
      -- does not resolve it, and the inner run starts from `hle.trans l2`
      intro id ho hle
      have hw : fn2.mm.resolvesAt (Fn.cfgOf cfg ds) ck = false := hle ck (hh.le1 ck (w1 e' r1))
      have hn := hh.warm id ho (hle.trans l2)
      show (if fn2.mm.resolvesAt (Fn.cfgOf cfg ds) ck then 1 else 0) + _ = 0
      rw [hw, hn]; rfl
  | _ =>
    have r1 := s1.1.trans hr
    have r2 := s2.1.trans hr
    rw [lookThen_eq cfg ds k fn1 h1.defns, lookThen_eq cfg ds k fn2 h2.defns, r1, r2]
    exact RunRel.tuples i1 i2 l1 l2 fun id ho => absurd ho (resOutcome_not_ran _ id fun e h => by cases h)

theorem runEntry_rel (f : Nat) (fn1 fn2 : Fn) (e : Entry) (x : Dispatch) (d : Nat)
    (h1 : FInv cfg ds ana fn1) (h2 : FInv cfg ds ana fn2) :
    RunRel cfg ds ana fn1 fn2 (runEntry cfg f fn1 e x d) (runEntry cfg f fn2 e x d) :=
  runEntry_cases2 cfg (fun a b => FInv cfg ds ana a ∧ FInv cfg ds ana b) (RunRel cfg ds ana)
    (fun _ _ i => ⟨i.1.mm.meths.trans i.2.mm.meths.symm, i.1.defns.trans i.2.defns.symm, i.1.ana.trans i.2.ana.symm⟩)
    (fun _ _ _ _ i => RunRel.triv i.1 i.2)
    (fun k a b tr ck i hk => lookThen_rel cfg ds ana ok k (fun a' b' e' ha hb => hk a' b' e' ⟨ha, hb⟩) a b i.1 i.2 tr ck)
    f fn1 fn2 e x d ⟨h1, h2⟩

theorem call_rel (fn1 fn2 : Fn) (h1 : FInv cfg ds ana fn1) (h2 : FInv cfg ds ana fn2) (c : Call) :
    RunRel cfg ds ana fn1 fn2 (fn1.call cfg c) (fn2.call cfg c) := by
  rw [Fn.call_compiled cfg fn1 h1.compiled, Fn.call_compiled cfg fn2 h2.compiled, h1.ana, h2.ana]
  cases entry ana c with
  | error _ => exact RunRel.triv h1 h2
  | ok x =>
    exact lookThen_rel cfg ds ana ok _ (fun a b e' ha hb => runEntry_rel cfg ds ana ok 64 a b e' x 1 ha hb)
      fn1 fn2 h1 h2 _ _

theorem FInv.call {fn : Fn} (h : FInv cfg ds ana fn) (c : Call) : FInv cfg ds ana (fn.call cfg c).1 :=
  (call_rel cfg ds ana ok fn fn h h c).inv1

theorem runCalls_inv :
    ∀ (hist : List Call) (fn : Fn), FInv cfg ds ana fn →
      FInv cfg ds ana (fn.runCalls cfg hist) ∧ MMap.Le (Fn.cfgOf cfg ds) fn.mm (fn.runCalls cfg hist).mm
  | [], _, h => ⟨h, MMap.Le.refl _ _⟩
  | c :: rest, fn, h =>
    have h1 := call_rel cfg ds ana ok fn fn h h c
    have h2 := runCalls_inv rest _ h1.inv1
    ⟨h2.1, h1.le1.trans h2.2⟩

end

/-- the function object right after `compile()` -/
def Fn.built (ds : List (Def × Int)) (ana : Analysis) : Fn :=
  { defns := ds, compiled := true, mm := MMap.fresh (Fn.methsOf ds), ana := ana }

theorem Fn.built_inv (cfg : Cfg) (ds : List (Def × Int)) (ana : Analysis) :
    FInv cfg ds ana (Fn.built ds ana) :=
  ⟨rfl, rfl, rfl, MMap.fresh_inv _ _⟩

theorem Fn.compile_eq (fn : Fn) :
    fn.compile = (analyze (fn.defns.map (·.1.d))).map fun ana =>
      { fn with compiled := true, mm := MMap.fresh (Fn.methsOf fn.defns), ana := ana } := by
  unfold Fn.compile
  cases analyze (fn.defns.map (·.1.d)) <;> rfl

theorem Fn.call_uncompiled_ok (cfg : Cfg) (fn f : Fn) (hc : fn.compiled = false) (h : fn.compile = .ok f)
    (hf : f.compiled = true) (c : Call) : fn.call cfg c = f.call cfg c := by
  unfold Fn.call
  rw [hc, hf, h]
  rfl

theorem Fn.call_uncompiled_err (cfg : Cfg) (fn : Fn) (err : CfgErr) (hc : fn.compiled = false)
    (h : fn.compile = .error err) (c : Call) : fn.call cfg c = (fn, .configError, [], 0) := by
  unfold Fn.call
  rw [hc, h]
  rfl

theorem Fn.compile_ok (fn f : Fn) (h : fn.compile = .ok f) :
    ∃ ana, analyze (fn.defns.map (·.1.d)) = .ok ana ∧
      f = { fn with compiled := true, mm := MMap.fresh (Fn.methsOf fn.defns), ana := ana } := by
  rw [Fn.compile_eq] at h
  cases ha : analyze (fn.defns.map (·.1.d)) with
  | error e => rw [ha] at h; cases h
  | ok ana => rw [ha] at h; exact ⟨ana, rfl, (Except.ok.inj h).symm⟩

theorem Fn.call_fresh_ok (cfg : Cfg) (ds : List (Def × Int)) (ana : Analysis)
    (h : analyze (ds.map (·.1.d)) = .ok ana) (c : Call) :
    (Fn.fresh ds).call cfg c = (Fn.built ds ana).call cfg c :=
  Fn.call_uncompiled_ok cfg _ _ rfl (by rw [Fn.compile_eq]; exact congrArg _ h) rfl c

theorem Fn.call_fresh_err (cfg : Cfg) (ds : List (Def × Int)) (err : CfgErr)
    (h : analyze (ds.map (·.1.d)) = .error err) (c : Call) :
    (Fn.fresh ds).call cfg c = (Fn.fresh ds, .configError, [], 0) :=
  Fn.call_uncompiled_err cfg _ err rfl (by rw [Fn.compile_eq]; exact congrArg _ h) c

theorem Fn.runCalls_fresh_err (cfg : Cfg) (ds : List (Def × Int)) (err : CfgErr)
    (h : analyze (ds.map (·.1.d)) = .error err) : ∀ (hist : List Call), (Fn.fresh ds).runCalls cfg hist = Fn.fresh ds
  | [] => rfl
  | c :: rest => by
    show Fn.runCalls cfg ((Fn.fresh ds).call cfg c).1 rest = _
    rw [Fn.call_fresh_err cfg ds err h c]
    exact Fn.runCalls_fresh_err cfg ds err h rest

/-- after any history of calls, a function object that started out never called behaves like some state satisfying the
    invariant -/
theorem Fn.runCalls_fresh_ok (cfg : Cfg) (ds : List (Def × Int)) (ana : Analysis)
    (ok : PlanOK (plan (Fn.cfgOf cfg ds) (Fn.methsOf ds)))
    (h : analyze (ds.map (·.1.d)) = .ok ana) (hist : List Call) :
    ∃ fnH, FInv cfg ds ana fnH ∧
      ∀ c, ((Fn.fresh ds).runCalls cfg hist).call cfg c = fnH.call cfg c := by
  -- the first call builds; from then on the object is `Fn.built …` after that call
  cases hist with
  | nil => exact ⟨Fn.built ds ana, Fn.built_inv cfg ds ana, fun c => Fn.call_fresh_ok cfg ds ana h c⟩
  | cons c0 rest =>
    have hi := (Fn.built_inv cfg ds ana).call cfg ds ana ok c0
    refine ⟨Fn.runCalls cfg ((Fn.built ds ana).call cfg c0).1 rest, (runCalls_inv cfg ds ana ok rest _ hi).1, ?_⟩
    intro c
    show (Fn.runCalls cfg ((Fn.fresh ds).call cfg c0).1 rest).call cfg c = _
    rw [Fn.call_fresh_ok cfg ds ana h c0]

end Ovld

import Ovldverif.Spec.Chain
import Ovldverif.Lemmas.ListFacts
import Ovldverif.Lemmas.RankCore
/-!
# What `mkRanks`, `_pull` and `plan` keep of the candidates

Rank `j` is built from group `j`; every id it mentions, also through the fall-through chain of a dependent
dispatcher, is in one of the groups; `_pull` places every candidate at most once.
-/
set_option autoImplicit false
namespace Ovld

/-- the fall-through entry of a dependent dispatcher: the callable of the next rank, or the ambiguity of a tied
    next rank -/
def nxtOf (below : List (Rank Entry (List Nat))) : Entry :=
  match below with
  | r :: _ => (match r.func with | some e => e | none => Entry.ambNext r.err)
  | [] => Entry.noNext

theorem mkRanks_cons (ms : List Meth) (g : List Cand) (gs : List (List Cand)) :
    mkRanks ms (g :: gs) =
      { func :=
          if (g.map (·.id)).any (fun id => ((findMeth ms id).map Meth.dependent).getD false) then
            some (Entry.dep (g.map (·.id)) (nxtOf (mkRanks ms gs)))
          else match g.map (·.id) with
            | [id] => some (Entry.meth id)
            | _ => none,
        codes := (g.map (·.id)).filterMap (codeOf ms), err := g.map (·.id) } :: mkRanks ms gs := rfl

theorem mkRanks_err (ms : List Meth) : ∀ gs : List (List Cand),
    (mkRanks ms gs).map (·.err) = gs.map (fun g => g.map (·.id))
  | [] => rfl
  | g :: gs => by
    rw [mkRanks_cons, List.map_cons, List.map_cons, mkRanks_err ms gs]

theorem mkRanks_length_chain (ms : List Meth) (gs : List (List Cand)) : (mkRanks ms gs).length = gs.length := by
  have := congrArg List.length (mkRanks_err ms gs)
  simpa using this

theorem mkRanks_take_err (ms : List Meth) (gs : List (List Cand)) (t : Nat) :
    ((mkRanks ms gs).take t).flatMap (·.err) = ((gs.take t).flatten).map (·.id) := by
  rw [List.flatMap_def, List.map_take, mkRanks_err, ← List.map_take, ← List.map_flatten]

theorem mkRanks_take_singletons (ms : List Meth) (gs : List (List Cand)) (t : Nat)
    (h : ∀ r ∈ (mkRanks ms gs).take t, ∃ id, r.err = [id]) : ∀ g ∈ gs.take t, ∃ c, g = [c] := by
  intro g hg
  have : g.map (·.id) ∈ ((mkRanks ms gs).take t).map (·.err) := by
    rw [List.map_take, mkRanks_err, ← List.map_take]
    exact List.mem_map_of_mem hg
  obtain ⟨r, hr, he⟩ := List.mem_map.mp this
  obtain ⟨id, he'⟩ := h r hr
  exact List.length_eq_one_iff.mp (by simpa using congrArg List.length (he.symm.trans he'))

theorem rankCodes_mkRanks (ms : List Meth) (gs : List (List Cand)) :
    rankCodes (mkRanks ms gs) = (gs.flatten.map (·.id)).filterMap (codeOf ms) := by
  induction gs with
  | nil => rfl
  | cons g gs ih =>
    have ih' : List.flatMap (·.codes) (mkRanks ms gs)
        = (gs.flatten.map (·.id)).filterMap (codeOf ms) := ih
    simp only [rankCodes, mkRanks_cons, List.flatMap_cons, List.flatten_cons, List.map_append,
      List.filterMap_append, ih']

theorem mkRanks_meth (ms : List Meth) (gs : List (List Cand)) (r : Rank Entry (List Nat)) (hr : r ∈ mkRanks ms gs)
    (id : Nat) (hf : r.func = some (.meth id)) : r.err = [id] ∧ r.codes = [id].filterMap (codeOf ms) := by
  induction gs with
  | nil => cases hr
  | cons g gs ih =>
    rw [mkRanks_cons] at hr
    rcases List.mem_cons.mp hr with rfl | hr
    · dsimp only at hf ⊢
      split at hf
      · cases hf
      · split at hf
        · rename_i id' e
          cases hf
          rw [e]
          exact ⟨rfl, rfl⟩
        · cases hf
    · exact ih hr

theorem mkRanks_ids (ms : List Meth) (gs : List (List Cand)) (r : Rank Entry (List Nat)) (hr : r ∈ mkRanks ms gs) :
    (∀ id ∈ r.err, id ∈ gs.flatten.map (·.id)) ∧
    ∀ e, r.func = some e → ∀ id ∈ e.handlers, id ∈ gs.flatten.map (·.id) := by
  induction gs generalizing r with
  | nil => cases hr
  | cons g gs ih =>
    rw [mkRanks_cons] at hr
    rw [List.flatten_cons, List.map_append]
    rcases List.mem_cons.mp hr with rfl | hr
    · refine ⟨fun id h => List.mem_append_left _ h, fun e he id hid => ?_⟩
      dsimp only at he
      split at he
      · cases he
        rcases List.mem_append.mp hid with h | h
        · exact List.mem_append_left _ h
        · refine List.mem_append_right _ ?_
          unfold nxtOf at h
          split at h
          · rename_i r1 _ hb
            have ih1 := ih r1 (hb ▸ List.mem_cons_self)
            split at h
            · rename_i e1 he1; exact ih1.2 e1 he1 id h
            · exact ih1.1 id h
          · cases h
      · split at he
        · rename_i id' e'
          cases he
          rw [e']
          exact List.mem_append_left _ hid
        · cases he
    · exact ⟨fun id h => List.mem_append_right _ ((ih r hr).1 id h),
        fun e he id h => List.mem_append_right _ ((ih r hr).2 e he id h)⟩

theorem pull_mem (f : Nat) (cands : List Cand) (processed : List Nat) :
    ∀ c ∈ (pull f cands processed).flatten, c ∈ cands ∧ c.id ∉ processed := by
  fun_induction pull f cands processed with
  | case1 => intro c hc; cases hc
  | case2 => intro c hc; cases hc
  | case3 f cands processed c1 rest hfil extra ih =>
    -- the round: `hfil : cands.filter (fun c => !processed.contains c.id) = c1 :: rest`, and `extra` joins `c1` in its
    -- rank; all that is placed from here on is in `c1 :: rest`
    intro c hc
    rw [List.flatten_cons] at hc
    have hin : c ∈ c1 :: rest := by
      rcases List.mem_append.mp hc with h | h
      · exact (List.filter_sublist.cons_cons c1).subset h
      · exact List.mem_cons_of_mem c1 (ih c h).1
    rw [← hfil, List.mem_filter] at hin
    exact ⟨hin.1, by simpa using hin.2⟩

/-- a candidate is placed at most once: `extra` goes into `processed`, `c1` leaves `rest` -/
theorem pull_nodup (f : Nat) (cands : List Cand) (processed : List Nat) (hnd : (cands.map (·.id)).Nodup) :
    ((pull f cands processed).flatten.map (·.id)).Nodup := by
  fun_induction pull f cands processed with
  | case1 => exact List.nodup_nil
  | case2 => exact List.nodup_nil
  | case3 f cands processed c1 rest hfil extra ih =>
    have hnd1 : ((c1 :: rest).map (·.id)).Nodup := hfil ▸ (List.filter_sublist.map _).nodup hnd
    have hgrp : ((c1 :: extra).map (·.id)).Nodup := ((List.filter_sublist.cons_cons c1).map _).nodup hnd1
    rw [List.map_cons, List.nodup_cons] at hnd1
    rw [List.flatten_cons, List.map_append, List.nodup_append]
    refine ⟨hgrp, ih hnd1.2, ?_⟩
    -- a candidate `c` placed later is in `rest`, so it is not `c1`; it is not `processed`, so it is not in `extra`
    intro a ha b hb e
    obtain ⟨c, hc, hcb⟩ := List.mem_map.mp hb
    obtain ⟨hcr, hcp⟩ := pull_mem _ _ _ c hc
    rw [e, ← hcb, List.map_cons] at ha   -- `ha : c.id ∈ c1.id :: extra.map (·.id)`
    rcases List.mem_cons.mp ha with h | h
    · exact hnd1.1 (h ▸ List.mem_map_of_mem hcr)
    · exact hcp (List.mem_append_right processed h)

theorem sortCands_ids_nodup (cs : List Cand) (h : (cs.map (·.id)).Nodup) :
    ((sortCands cs).map (·.id)).Nodup :=
  ((List.mergeSort_perm cs _).map (·.id)).nodup_iff.mpr h

theorem ranks_ids_nodup {cs : List Cand} (h : (cs.map (·.id)).Nodup) : ((ranks cs).flatten.map (·.id)).Nodup :=
  pull_nodup _ _ [] (sortCands_ids_nodup cs h)

theorem mem_of_mem_ranks {cs : List Cand} {c : Cand} (hc : c ∈ (ranks cs).flatten) : c ∈ cs :=
  (List.mergeSort_perm _ _).mem_iff.mp (pull_mem _ _ [] c hc).1

theorem pull_heads_sublist (f : Nat) (cands : List Cand) (processed : List Nat) :
    ((pull f cands processed).filterMap List.head?).Sublist cands := by
  fun_induction pull f cands processed with
  | case1 => exact List.nil_sublist _
  | case2 => exact List.nil_sublist _
  | case3 f cands processed c1 rest hfil extra ih =>
    -- the head `c1`, then heads out of `rest`: a sublist of `c1 :: rest`, which is a filter of `cands`
    have h := ih.cons_cons c1
    rw [← hfil] at h
    exact h.trans List.filter_sublist

theorem pull_cons_nil (f : Nat) (h : Cand) (t : List Cand) :
    pull (f + 1) (h :: t) [] = (h :: t.filter (fun c2 => !dominates h c2)) ::
      pull f t ((t.filter (fun c2 => !dominates h c2)).map (·.id)) := by
  -- `processed = []`: the first filter keeps everything
  rw [pull, List.filter_eq_self (l := h :: t) (p := fun c => !([] : List Nat).contains c.id) |>.mpr fun _ _ => rfl]
  rfl

theorem pull_head (f : Nat) (l : List Cand) (hf : l.length ≤ f)
    (hs : l.Pairwise (fun a b : Cand => keyGe a.key b.key = true)) :
    (pull f l []).head? = if l = [] then none else some (firstGroup l) := by
  cases l with
  | nil => cases f <;> rfl
  | cons h t =>
    obtain ⟨f', rfl⟩ : ∃ f', f = f' + 1 := ⟨f - 1, by simp at hf; omega⟩
    unfold firstGroup sortCands
    rw [pull_cons_nil, List.mergeSort_of_pairwise hs]
    rfl

/-- candidates that dominate everything after them come out as singleton ranks, and `_pull` goes on after them
    with nothing marked as processed -/
theorem pull_prefix (rest : List Cand) (f : Nat) (pre : List Cand)
    (hdom : (pre ++ rest).Pairwise (fun a c => a ∈ pre → dominates a c = true)) :
    pull (pre.length + f) (pre ++ rest) [] = pre.map (fun c => [c]) ++ pull f rest [] := by
  induction pre with
  | nil => simp
  | cons a pre ih =>
    obtain ⟨h1, h2⟩ := List.pairwise_cons.mp hdom
    have hnone : (pre ++ rest).filter (fun c => !dominates a c) = [] :=
      List.filter_eq_nil_iff.mpr fun c hc => by simp [h1 c hc List.mem_cons_self]
    rw [List.length_cons, Nat.add_right_comm, List.cons_append, pull_cons_nil, hnone, List.map_nil,
      ih (h2.imp fun h hm => h (List.mem_cons_of_mem _ hm))]
    rfl

theorem ranks_take_sublist (cs : List Cand) (t : Nat) (h : ∀ g ∈ (ranks cs).take t, ∃ c, g = [c]) :
    ((ranks cs).take t).flatten.Sublist (sortCands cs) := by
  rw [flatten_eq_heads _ h]
  exact ((List.take_sublist t (ranks cs)).filterMap _).trans (pull_heads_sublist _ _ _)

theorem plan_ranks_of_fail {cfg : Cfg} {ms : List Meth} {k : Key} (hf : (plan cfg ms k).fail = true) :
    (plan cfg ms k).ranks = [] := by
  unfold plan at hf ⊢
  cases h : candidates cfg ms k with
  | none => rfl
  | some cs => rw [h] at hf; cases hf

theorem plan_ranks_of_ok (cfg : Cfg) (ms : List Meth) (k : Key) (hf : (plan cfg ms k).fail = false) :
    ∃ cs, candidates cfg ms k = some cs ∧ (plan cfg ms k).ranks = mkRanks ms (ranks cs) := by
  unfold plan at hf ⊢
  cases h : candidates cfg ms k with
  | none => rw [h] at hf; cases hf
  | some cs => exact ⟨cs, rfl, rfl⟩

end Ovld

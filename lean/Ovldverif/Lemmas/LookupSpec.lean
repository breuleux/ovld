import Ovldverif.Lemmas.ConcCore
/-!
# The caches refine the pure resolution: the sequential theorems (any plan, cache level)
-/
set_option autoImplicit false
namespace Ovld
open ConcLookup

section
variable {K F E : Type} [DecidableEq K] (plan : K → Plan F E)

theorem inv_resolve (st : St K F E) (k : K) (hf : (plan k).fail = false) (h : CInv plan st) :
    CInv plan (resolve plan k st) := by
  obtain ⟨_, h0, ha⟩ := recordAll_ok plan h k hf
  -- `resolve` applies all the writes to the state in which `mro` has recorded `all[k]`
  show CInv plan (applyW (recordAll plan st k) (ws plan k))
  refine h0.extend plan (Ext.of_present ?_ fun k' hk' => by rwa [applyW_all]) ?_
    (fun k' cs hk' => Or.inl (by rwa [applyW_all] at hk')) ?_
  · -- an old entry of `k` is, being sound, what is written now; the others are not touched
    intro w hw
    by_cases hk : w.key.2 = k
    · exact present_applyW_of_last (hk ▸ (h0.sound plan hw).1)
    · exact present_applyW_of_key (fun w' hw' e => hk (e ▸ ws_key plan hw')) hw
  · intro w hw
    refine (present_applyW hw).symm.imp id fun hl => ?_
    exact Sound.of_last plan hl hf
  · intro k' f hp
    refine (present_applyW hp).symm.imp id fun hl => ?_
    obtain rfl : k' = k := ws_key plan hl.mem
    exact ⟨by rwa [applyW_all], fun w hw => present_applyW_of_last hw⟩

theorem lookup_ok (ok : PlanOK plan) (st : St K F E) (ck : CKey K) (h : CInv plan st) :
    Ext st (lookup plan st ck).1 ∧ CInv plan (lookup plan st ck).1 ∧ (lookup plan st ck).2 = pureLookup plan ck := by
  obtain ⟨n, hn⟩ := reach_lookup plan st ck
  have := iter_ok plan ok ck n st _ h (L_start plan st ck)
  rwa [hn] at this

theorem lookup_spec (ok : PlanOK plan) (st : St K F E) (ck : CKey K) (h : CInv plan st) :
    (lookup plan st ck).2 = pureLookup plan ck ∧ CInv plan (lookup plan st ck).1 :=
  ⟨(lookup_ok plan ok st ck h).2.2, (lookup_ok plan ok st ck h).2.1⟩

theorem lookupCut_inv (ok : PlanOK plan) (st : St K F E) (ck : CKey K) (n : Nat) (h : CInv plan st) :
    CInv plan (lookupCut plan st ck n) := by
  obtain ⟨pc, m, hm⟩ := reach_cut plan st ck n
  have := iter_ok plan ok ck m st _ h (L_start plan st ck)
  rw [hm] at this
  exact this.2.1

theorem run_inv (ok : PlanOK plan) : ∀ (hist : List (CKey K)) (st : St K F E), CInv plan st →
    CInv plan (run plan st hist) ∧ Ext st (run plan st hist)
  | [], st, h => ⟨h, Ext.refl st⟩
  | ck :: rest, st, h =>
    have ⟨x, h1, _⟩ := lookup_ok plan ok st ck h
    have ⟨h', x'⟩ := run_inv ok rest _ h1
    ⟨h', x.trans x'⟩

theorem runL_inv (ok : PlanOK plan) : ∀ (hist : List (LOp K)) (st : St K F E), CInv plan st →
    CInv plan (runL plan st hist)
  | [], _, h => h
  | .look ck :: rest, st, h => runL_inv ok rest _ (lookup_spec plan ok st ck h).2
  | .cut ck n :: rest, st, h => runL_inv ok rest _ (lookupCut_inv plan ok st ck n h)

/-- C04 (cache level, any plan): after any history of lookups a lookup returns what it returns on a fresh table -/
theorem history_independent (ok : PlanOK plan) (hist : List (CKey K)) (ck : CKey K) :
    (lookup plan (run plan St.empty hist) ck).2 = (lookup plan (St.empty : St K F E) ck).2 := by
  rw [(lookup_spec plan ok _ ck (run_inv plan ok hist _ (empty_inv plan)).1).1,
      (lookup_spec plan ok _ ck (empty_inv plan)).1]

/-- lookups never evict: what is cached stays cached with the same value -/
theorem cache_monotone (st : St K F E) (ck ck' : CKey K) (f : F) (ok : PlanOK plan) (hi : CInv plan st)
    (h : st.cache ck' = some f) : (lookup plan st ck).1.cache ck' = some f :=
  (lookup_ok plan ok st ck hi).1.c ck' f h

/-- C20 (cache level, any plan): once a lookup of `ck` has succeeded, no later lookup of `ck` resolves again, whatever
    other lookups happened in between -/
theorem warm_no_resolve (ok : PlanOK plan) (st : St K F E) (hi : CInv plan st) (ck : CKey K) (f : F)
    (hok : (lookup plan st ck).2 = .ok f) (hist : List (CKey K)) :
    resolves plan (run plan (lookup plan st ck).1 hist) ck = false :=
  resolves_ext plan (run_inv plan ok hist _ (lookup_spec plan ok st ck hi).2).2 (warm_of_lookup_eq_ok plan st ck f hok)

end
end Ovld

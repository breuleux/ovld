import Ovldverif.Lemmas.Batches
import Ovldverif.Lemmas.MkRanks
/-!
# The concrete resolution plan of `MultiTypeMap` satisfies `PlanOK`

No candidate lands in two ranks of `_pull` (`pull_nodup`; that every candidate lands in one is not proved and not
needed), so when registered handlers have pairwise distinct identities and pairwise distinct code objects, the
code objects of different ranks are distinct; and the codes of every rank are among the codes `mro` records in
`self.all[key]`.
-/
set_option autoImplicit false
namespace Ovld

theorem codeOf_some {ms : List Meth} {id c : Nat} (h : codeOf ms id = some c) :
    ∃ m ∈ ms, m.id = id ∧ m.code = c := by
  unfold codeOf findMeth at h
  split at h
  · rename_i m hm
    refine ⟨m, List.mem_of_find?_eq_some hm, ?_, ?_⟩
    · have := List.find?_some hm
      exact eq_of_beq this
    · split at h
      · exact Option.some.inj h
      · cases h
  · cases h

theorem codeOf_inj (ms : List Meth) (hcode : (ms.map (·.code)).Nodup) {a b c : Nat}
    (ha : codeOf ms a = some c) (hb : codeOf ms b = some c) : a = b := by
  obtain ⟨m1, hm1, rfl, e1⟩ := codeOf_some ha
  obtain ⟨m2, hm2, rfl, e2⟩ := codeOf_some hb
  rw [eq_of_nodup_map (·.code) hcode hm1 hm2 (e1.trans e2.symm)]

theorem codes_nodup_of_ids (ms : List Meth) (hcode : (ms.map (·.code)).Nodup) (l : List Nat)
    (h : l.Nodup) : (l.filterMap (codeOf ms)).Nodup :=
  List.Pairwise.filterMap (R := (· ≠ ·)) (S := (· ≠ ·)) (codeOf ms)
    (fun _ _ hne _ hb _ hb' e => hne (codeOf_inj ms hcode hb (e ▸ hb'))) h

theorem dedupTy_mem (t : Ty) (l : List Ty) : t ∈ dedupTy l ↔ t ∈ l := by
  fun_induction dedupTy l generalizing t with
  | case1 => exact Iff.rfl
  | case2 a l h ih =>
    rw [ih, List.mem_cons]
    exact ⟨Or.inr, fun h' => h'.elim (fun e => e ▸ (ih a).mp (by simpa using h)) id⟩
  | case3 a l h ih => rw [List.mem_cons, List.mem_cons, ih]

theorem dedupTy_nodup (l : List Ty) : (dedupTy l).Nodup := by
  fun_induction dedupTy l with
  | case1 => exact List.nodup_nil
  | case2 a l h ih => exact ih
  | case3 a l h ih => exact List.nodup_cons.mpr ⟨by simpa using h, ih⟩

theorem slotTypes_nodup (cfg : Cfg) (ms : List Meth) (s : Slot) : (slotTypes cfg ms s).Nodup := by
  unfold slotTypes
  exact (List.mergeSort_perm _ _).nodup_iff.mpr
    ((List.reverse_perm _).nodup_iff.mpr (dedupTy_nodup _))

theorem tmLookup_fst_nodup (cfg : Cfg) (ms : List Meth) (hid : (ms.map (·.id)).Nodup)
    (s : Slot) (cls : Ty) (r : List (Nat × Nat)) (h : tmLookup cfg ms s cls = some r) :
    (r.map (·.1)).Nodup := by
  unfold tmLookup at h
  split at h
  · cases h
  · rename_i lv hlv
    cases Option.some.inj h
    have hlvn := (levels_fst cfg.H (slotTypes_nodup cfg ms s) hlv).1
    rw [List.map_flatMap]
    show List.Pairwise (· ≠ ·) _
    rw [List.pairwise_flatMap]
    constructor
    · rintro ⟨t, l⟩ _
      dsimp only
      rw [List.map_map]
      exact ((List.filter_sublist (l := ms)).map _).nodup hid
    · refine (List.pairwise_map.mp hlvn).imp ?_
      rintro ⟨t1, l1⟩ ⟨t2, l2⟩ hne x hx y hy e
      dsimp only at hx hy hne
      rw [List.map_map] at hx hy
      obtain ⟨m1, hm1, rfl⟩ := List.mem_map.mp hx
      obtain ⟨m2, hm2, e2⟩ := List.mem_map.mp hy
      obtain ⟨hm1, ht1⟩ := List.mem_filter.mp hm1
      obtain ⟨hm2, ht2⟩ := List.mem_filter.mp hm2
      have : m2 = m1 := eq_of_nodup_map (·.id) hid hm2 hm1 (e2.trans e.symm)
      subst this
      have e1 := eq_of_beq ht1
      have e2 := eq_of_beq ht2
      exact hne (Option.some.inj (e1.symm.trans e2))

theorem slotResults_fst_nodup (cfg : Cfg) (ms : List Meth) (hid : (ms.map (·.id)).Nodup)
    (k : Key) (rs : List (List (Nat × Nat))) (h : slotResults cfg ms k = some rs) :
    ∀ r ∈ rs, (r.map (·.1)).Nodup := by
  unfold slotResults at h
  refine mapM_option_forall _ _ ?_ k rs h
  rintro ⟨s, cls⟩ b hb
  dsimp only at hb
  split at hb
  · cases hb
  · rename_i r hr
    cases Option.some.inj hb
    exact ((List.filter_sublist).map _).nodup (tmLookup_fst_nodup cfg ms hid s cls r hr)

theorem mem_candIds (rs : List (List (Nat × Nat))) (hne : rs ≠ []) (id : Nat) :
    id ∈ candIds rs ↔ ∀ r ∈ rs, id ∈ r.map (·.1) := by
  cases rs with
  | nil => exact absurd rfl hne
  | cons r rest =>
    unfold candIds
    simp only [List.mem_filter, List.all_eq_true, List.contains_iff_mem, List.forall_mem_cons]

theorem candIds_nodup (rs : List (List (Nat × Nat))) (h : ∀ r ∈ rs, (r.map (·.1)).Nodup) :
    (candIds rs).Nodup := by
  unfold candIds
  split
  · exact List.nodup_nil
  · exact (List.filter_sublist).nodup (h _ List.mem_cons_self)

theorem candidates_nodup (cfg : Cfg) (ms : List Meth) (hid : (ms.map (·.id)).Nodup)
    (k : Key) (cs : List Cand) (h : candidates cfg ms k = some cs) : (cs.map (·.id)).Nodup := by
  unfold candidates at h
  split at h
  · cases h
  · rename_i rs hrs
    cases Option.some.inj h
    rw [List.map_map]
    have : ((fun c : Cand => c.id) ∘ mkCand ms rs) = id := rfl
    rw [this, List.map_id]
    refine (List.mergeSort_perm _ _).nodup_iff.mpr ?_
    split
    · exact ((List.filter_sublist (l := ms)).map _).nodup hid
    · exact candIds_nodup rs (slotResults_fst_nodup cfg ms hid k rs hrs)

theorem plan_ok (cfg : Cfg) (ms : List Meth)
    (hid : (ms.map (·.id)).Nodup) (hcode : (ms.map (·.code)).Nodup) :
    PlanOK (plan cfg ms) := by
  have H : ∀ k, (rankCodes (plan cfg ms k).ranks).Nodup ∧
      ∀ c ∈ rankCodes (plan cfg ms k).ranks, c ∈ (plan cfg ms k).allCodes := by
    intro k
    unfold plan
    cases h : candidates cfg ms k with
    | none => exact ⟨List.nodup_nil, fun c hc => nomatch hc⟩
    | some cs =>
      have nd := candidates_nodup cfg ms hid k cs h
      dsimp only
      rw [rankCodes_mkRanks]
      refine ⟨codes_nodup_of_ids ms hcode _ (ranks_ids_nodup nd), fun c hc => ?_⟩
      obtain ⟨id, hid', hco⟩ := List.mem_filterMap.mp hc
      obtain ⟨cand, hcand, rfl⟩ := List.mem_map.mp hid'
      exact List.mem_filterMap.mpr ⟨cand, (List.mergeSort_perm _ _).mem_iff.mpr (mem_of_mem_ranks hcand), hco⟩
  exact ⟨fun k => (H k).1, fun k => (H k).2⟩

end Ovld

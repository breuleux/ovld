import Ovldverif.Model.SortTypes
import Ovldverif.Model.Rank
import Ovldverif.Spec.CacheSpec
/-!
# Layer D (3/3): `TypeMap` / `MultiTypeMap` (typemap.py L12-55, L79-234, L303-388)

The iteration orders of the library's sets are explicit inputs (`Cfg.tyRank` for `TypeMap.types`,
`Cfg.hRank` for the candidate set of `mro`); everything else follows the code.
-/
set_option autoImplicit false
namespace Ovld

inductive Slot | pos (i : Nat) | kw (n : Nat)
deriving DecidableEq, Repr, Inhabited

def Slot.isPos : Slot → Bool | .pos _ => true | _ => false

abbrev Key := List (Slot × Ty)

/-- a registered `(handler, sig)` entry -/
structure Meth where
  id : Nat
  code : Nat
  params : List (Slot × Ty)
  reqPos : Nat
  maxPos : Nat
  reqNames : List Nat
  prio : Int
  tb : Int
  hasCode : Bool := true
deriving Inhabited

def Meth.tyAt (m : Meth) (s : Slot) : Option Ty :=
  match m.params.find? (fun p => p.1 == s) with
  | some p => some p.2
  | none => none

def Meth.dependent (m : Meth) : Bool := m.params.any (fun p => p.2.isDep)

structure Cfg where
  H : Hier
  tyRank : Ty → Nat
  hRank : Nat → Nat
  /-- tag of `type(c)` (the metaclass) of class `c` (only the dependent-dispatch generator looks at it) -/
  metaOf : Nat → Nat := fun _ => 0
  /-- `T.check(value)` of a `FuncDependentType`: user conditions and built-in value types are parameters -/
  chk : Nat → List (Option Nat) → Nat → Tri := fun _ _ _ => .raises

/-- what a dict entry of the table is: a registered handler, or a generated dependent dispatcher over
    the handlers of one rank that falls through to the entry of the next rank (`noNext`: raises "No method";
    `ambNext ids`: the rank below is tied, raises its ambiguity) -/
inductive Entry
  | meth (id : Nat)
  | dep (handlers : List Nat) (next : Entry)
  | noNext
  /-- falling through into a tied rank: raises that rank's ambiguity (`fix:` for finding D20) -/
  | ambNext (ids : List Nat)
deriving DecidableEq, Repr, Inhabited

section
variable (cfg : Cfg) (ms : List Meth)

def findMeth (id : Nat) : Option Meth := ms.find? (fun m => m.id == id)

def dedupTy : List Ty → List Ty
  | [] => []
  | t :: ts => if (dedupTy ts).contains t then dedupTy ts else t :: dedupTy ts

/-- iteration order of `TypeMap.types` for the slot -/
def slotTypes (s : Slot) : List Ty :=
  let ts := (ms.filterMap (fun m => m.tyAt s)).reverse
  (dedupTy ts).reverse.mergeSort (fun a b => cfg.tyRank a ≤ cfg.tyRank b)

def slotExists (s : Slot) : Bool := ms.any (fun m => (m.tyAt s).isSome)

/-- `self.maps[s][cls]` as `{(handler, sig): level}`; `none` = CycleError, `some []` = KeyError -/
def tmLookup (s : Slot) (cls : Ty) : Option (List (Nat × Nat)) :=
  match levels cfg.H cls (slotTypes cfg ms s) with
  | none => none
  | some lv =>
    some (lv.flatMap (fun (t, l) => (ms.filter (fun m => m.tyAt s == some t)).map (fun m => (m.id, l))))

def keyNargs (k : Key) : Nat := (k.filter (fun e => e.1.isPos)).length
def keyNames (k : Key) : List Nat := k.filterMap (fun e => match e.1 with | .kw n => some n | _ => none)

def sigOK (nargs : Nat) (names : List Nat) (id : Nat) : Bool :=
  match findMeth ms id with
  | some m => m.reqPos ≤ nargs && nargs ≤ m.maxPos && m.reqNames.all (fun n => names.contains n)
  | none => false

/-- per slot of the key: the filtered `{handler: level}` results (typemap.py L117-133) -/
def slotResults (k : Key) : Option (List (List (Nat × Nat))) :=
  k.mapM (fun (s, cls) =>
    match tmLookup cfg ms s cls with
    | none => none
    | some r => some (r.filter (fun p => sigOK ms (keyNargs k) (keyNames k) p.1)))

def candIds (rs : List (List (Nat × Nat))) : List Nat :=
  match rs with
  | [] => []
  | r :: rest => (r.map (·.1)).filter (fun id => rest.all (fun r' => (r'.map (·.1)).contains id))

def lvlIn (r : List (Nat × Nat)) (id : Nat) : Nat :=
  match r.find? (fun p => p.1 == id) with
  | some p => p.2
  | none => 0

def mkCand (rs : List (List (Nat × Nat))) (id : Nat) : Cand :=
  let m := (findMeth ms id).getD default
  { id := id, prio := m.prio, spec := rs.map (fun r => lvlIn r id), tb := m.tb }

/-- a call without any argument (`candidates is None` after the loop of `mro`): every method that requires no
    argument competes, on priority alone (since the `fix:` for finding D9; before it the table kept one
    `empty` entry, the zero-parameter method registered last) -/
def zeroArgIds : List Nat :=
  (ms.filter (fun m => m.reqPos == 0 && m.reqNames.isEmpty)).map (·.id)

/-- the candidate list before sorting, in the iteration order of the candidate set -/
def candidates (k : Key) : Option (List Cand) :=
  match slotResults cfg ms k with
  | none => none
  | some rs =>
    let ids0 := if k.isEmpty then zeroArgIds ms else candIds rs
    let ids := ids0.mergeSort (fun a b => cfg.hRank a ≤ cfg.hRank b)
    some (ids.map (mkCand ms rs))

/-- `MultiTypeMap.mro` -/
def mro (k : Key) : Option (List (List Cand)) :=
  (candidates cfg ms k).map ranks

def codeOf (id : Nat) : Option Nat :=
  match findMeth ms id with
  | some m => if m.hasCode then some m.code else none
  | none => none

/-- bottom-up half of `resolve` (L326-341) -/
def mkRanks : List (List Cand) → List (Rank Entry (List Nat))
  | [] => []
  | g :: gs =>
    let below := mkRanks gs
    let ids := g.map (·.id)
    let dependent := ids.any (fun id => ((findMeth ms id).map Meth.dependent).getD false)
    let nxt : Entry := match below with
      | r :: _ => (match r.func with | some e => e | none => Entry.ambNext r.err)
      | [] => Entry.noNext
    let func : Option Entry :=
      if dependent then some (Entry.dep ids nxt)
      else match ids with
        | [id] => some (Entry.meth id)
        | _ => none
    { func := func, codes := ids.filterMap (codeOf ms), err := ids } :: below

def plan (k : Key) : Plan Entry (List Nat) :=
  match candidates cfg ms k with
  | none => { ranks := [], allCodes := [], fail := true }
  | some cs =>
    let s := sortCands cs
    { ranks := mkRanks ms (pull s.length s []), allCodes := s.filterMap (fun c => codeOf ms c.id) }

end

/-- the table: registered entries plus the three caches plus the per-slot `TypeMap` cache key sets -/
structure MMap where
  meths : List Meth := []
  st : St Key Entry (List Nat) := St.empty
  tcache : List (Slot × Ty) := []

def MMap.register (mm : MMap) (m : Meth) : MMap :=
  { meths := mm.meths ++ [m],
    st := cleared mm.st,
    tcache := mm.tcache.filter (fun e => !(m.params.any (fun p => p.1 == e.1))) }

def touchT (cfg : Cfg) (ms : List Meth) (tc : List (Slot × Ty)) (k : Key) : List (Slot × Ty) :=
  k.foldl (fun tc e =>
    match tmLookup cfg ms e.1 e.2 with
    | some (_ :: _) => if tc.contains e then tc else tc ++ [e]
    | _ => tc) tc

/-- does `table[ck]` run `resolve` (hence `mro`, `sort_types`, `typeorder`, `subclasscheck` and with them the
    user's class predicates and hooks)? -/
def MMap.resolvesAt (cfg : Cfg) (mm : MMap) (ck : CKey Key) : Bool :=
  resolves (plan cfg mm.meths) mm.st ck

/-- `table[ck]` -/
def MMap.lookup (cfg : Cfg) (mm : MMap) (ck : CKey Key) : MMap × Res Entry (List Nat) :=
  match ck with
  | (c, k) =>
    -- (the key of a call without arguments, `[]`, goes the same way since the `fix:` for finding D9)
    let resolves := (mm.st.cache (c, k)).isNone && (mm.st.cache (none, k)).isNone
    let (st', r) := Ovld.lookup (plan cfg mm.meths) mm.st (c, k)
    ({ mm with st := st', tcache := if resolves then touchT cfg mm.meths mm.tcache k else mm.tcache }, r)

/-- `table[ck]` interrupted after `n` writes of its resolution -/
def MMap.lookupCut (cfg : Cfg) (mm : MMap) (ck : CKey Key) (n : Nat) : MMap :=
  match ck with
  | (c, k) =>
    let resolves := (mm.st.cache (c, k)).isNone && (mm.st.cache (none, k)).isNone
    { mm with st := Ovld.lookupCut (plan cfg mm.meths) mm.st (c, k) n,
              tcache := if resolves then touchT cfg mm.meths mm.tcache k else mm.tcache }

end Ovld

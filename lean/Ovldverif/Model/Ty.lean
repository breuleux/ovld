/-!
# Layer A (2/3): normalised annotation objects

`Ty` mirrors the objects that `ovld.types.normalize_type` produces and that `mro.typeorder` /
`mro.subclasscheck` / `dependent.is_dependent` inspect.

* `cls c`        a plain class (class ids index the hierarchy tables; id 0 is `object`)
* `gen o args`   a `types.GenericAlias` / `typing` alias with a class origin (`list[int]`, `type[A]`)
* `union`/`inter`  `ovld.types.Union[...]` / `Intersection[...]` (a `MetaMC` class)
* `exactly`/`strict`/`hasm`/`pred`  `MetaMC` classes over a `SingleFunctionHandler`
  (`Exactly[c]`, `StrictSubclass[c]`, `HasMethod[m]`, `class_check(p)`); these compare by *identity*,
  which is what `tag` stands for
* `lit keys bound`  `Equals[...]` (`Literal[...]`); `keys` are the equality classes of the values
  (Python `==`), so that structural equality of `Ty` is Python equality of the type objects
* `prod ps bound`   `ProductType[...]` (`tuple[...]`)
* `fdep fn ps bound`  a `FuncDependentType` instance: `fn` is the identity of its class, a parameter is
  `none` when it is `typing.Any`, else an opaque identity
-/
set_option autoImplicit false

namespace Ovld

inductive Ty where
  | cls (c : Nat)
  | gen (o : Nat) (args : List Ty)
  | union (ts : List Ty)
  | inter (ts : List Ty)
  | exactly (tag c : Nat)
  | strict (tag c : Nat)
  | hasm (tag m : Nat)
  | pred (tag k : Nat)
  | lit (keys : List Nat) (bound : Ty)
  | prod (ps : List Ty) (bound : Ty)
  | fdep (fn : Nat) (ps : List (Option Nat)) (bound : Ty)
deriving Inhabited, Repr

namespace Ty

mutual
/-- Python `==` on the type objects -/
def beq : Ty → Ty → Bool
  | cls a, cls b => a == b
  | gen o a, gen p b => o == p && beqL a b
  | union a, union b => beqL a b
  | inter a, inter b => beqL a b
  | exactly t a, exactly u b => t == u && a == b
  | strict t a, strict u b => t == u && a == b
  | hasm t a, hasm u b => t == u && a == b
  | pred t a, pred u b => t == u && a == b
  | lit k a, lit l b => k == l && beq a b
  | prod p a, prod q b => beqL p q && beq a b
  | fdep f p a, fdep g q b => f == g && p == q && beq a b
  | _, _ => false
def beqL : List Ty → List Ty → Bool
  | [], [] => true
  | a :: as, b :: bs => beq a b && beqL as bs
  | _, _ => false
end

mutual
def size : Ty → Nat
  | cls _ => 1
  | gen _ a => 2 + sizeL a
  | union a => 2 + sizeL a
  | inter a => 2 + sizeL a
  | exactly _ _ => 2
  | strict _ _ => 2
  | hasm _ _ => 2
  | pred _ _ => 2
  | lit _ b => 2 + size b
  | prod p b => 2 + sizeL p + size b
  | fdep _ _ b => 2 + size b
def sizeL : List Ty → Nat
  | [] => 0
  | a :: as => size a + sizeL as
end

/-- `isinstance(t, DependentType)` -/
def isDepTop : Ty → Bool
  | lit .. => true | prod .. => true | fdep .. => true | _ => false

mutual
/-- `dependent.is_dependent` (dependent.py L62-67) -/
def isDep : Ty → Bool
  | cls _ => false
  | gen _ a => isDepL a
  | union a => isDepL a
  | inter a => isDepL a
  | exactly .. => false
  | strict .. => false
  | hasm .. => false
  | pred .. => false
  | lit .. => true
  | prod .. => true
  | fdep .. => true
def isDepL : List Ty → Bool
  | [] => false
  | a :: as => isDep a || isDepL as
end

def isGen : Ty → Bool | gen .. => true | _ => false
def isCls : Ty → Bool | cls _ => true | _ => false

/-- a class object whose only base is `object` (instances of `MetaMC` / `DependentType`) -/
def isSynthetic : Ty → Bool
  | cls _ => false | gen .. => false | _ => true

def bound? : Ty → Option Ty
  | lit _ b => some b | prod _ b => some b | fdep _ _ b => some b | _ => none

/-- which parameters are `typing.Any` (only `FuncDependentType` parameters can be) -/
def anyMask : Ty → List Bool
  | lit k _ => k.map (fun _ => false)
  | prod p _ => p.map (fun _ => false)
  | fdep _ p _ => p.map (·.isNone)
  | _ => []

def countAnyNot : List Bool → List Bool → Nat
  | a :: as, b :: bs => (if a && !b then 1 else 0) + countAnyNot as bs
  | _, _ => 0

/-- `self < other` between dependent types (`DependentType.__lt__` is constantly `False`,
    `FuncDependentType.__lt__` dependent.py L191-202) -/
def depLt (self other : Ty) : Bool :=
  match self with
  | fdep .. =>
    let m1 := self.anyMask; let m2 := other.anyMask
    m1.length == m2.length && countAnyNot m2 m1 > 0 && countAnyNot m1 m2 == 0
  | _ => false

end Ty
end Ovld

import Ovldverif.Model.Dependent
/-!
# Layer F: `Signature.extract`, `ArgumentAnalyzer`, and the generated entry point (`generate_dispatch`)

core.py L136-338, recode.py L56-170.  A Python method definition is a list of parameters (after an optional
`self`); the analyzer classifies the positions / names over all registered methods; the generated entry point
is modelled by how CPython binds a call to its parameter list and by which lookup key / argument list each of
its `return` statements uses (the early exits for omitted optional positionals truncate both).
-/
set_option autoImplicit false
namespace Ovld

inductive PKind | posOnly | posOrKw | kwOnly
deriving DecidableEq, Repr, Inhabited

structure Param where
  name : Nat
  kind : PKind
  required : Bool
  ty : Ty
deriving Inhabited

/-- a registered Python function (one `def`) -/
structure FnDef where
  id : Nat
  code : Nat
  isMethod : Bool
  params : List Param
  prio : Int
deriving Inhabited

def FnDef.positional (d : FnDef) : List Param := d.params.filter (fun p => p.kind != .kwOnly)
def FnDef.kwOnly (d : FnDef) : List Param := d.params.filter (fun p => p.kind == .kwOnly)

/-- `Signature.extract` + `replace(priority=..., tiebreak=...)`: the table entry of a definition -/
def FnDef.toMeth (d : FnDef) (tb : Int) : Meth :=
  let pos := d.positional
  { id := d.id, code := d.code,
    params := (pos.zipIdx.map (fun (p, i) => (Slot.pos i, p.ty))) ++ (d.kwOnly.map (fun p => (Slot.kw p.name, p.ty))),
    reqPos := (pos.filter (·.required)).length,
    maxPos := pos.length,
    reqNames := (d.kwOnly.filter (·.required)).map (·.name),
    prio := d.prio, tb := tb }

/-- result of `ArgumentAnalyzer.compile` -/
structure Analysis where
  npos : Nat                 -- number of positions any method declares
  nreq : Nat                 -- positions required by every method (a prefix)
  nstrict : Nat              -- strictly positional prefix (`ARGi` names)
  names : List Nat           -- names of the positions `nstrict ..`
  kwReq : List Nat
  kwOpt : List Nat
  isMethod : Bool
  complexPos : List Nat      -- positions looked up with `subtler_type`
  complexKw : List Nat
deriving Repr, Inhabited

inductive CfgErr | nameConflict | selfMix
deriving DecidableEq, Repr

def dedupNat : List Nat → List Nat
  | [] => []
  | x :: xs => let r := dedupNat xs; if r.contains x then r else x :: r

/-- first occurrences, in order -/
def dedupFirst (xs : List Nat) : List Nat :=
  xs.foldl (fun acc x => if acc.contains x then acc else acc ++ [x]) []

def dedupOpt : List (Option Nat) → List (Option Nat)
  | [] => []
  | x :: xs => let r := dedupOpt xs; if r.contains x then r else x :: r

/-- the canonical keys (position or keyword name) under which a parameter name is declared -/
inductive Canon | pos (i : Nat) | kw (n : Nat)
deriving DecidableEq, Repr

def canonsOf (d : FnDef) : List (Nat × Canon) :=
  (d.positional.zipIdx.filterMap (fun (p, i) => if p.kind == .posOrKw then some (p.name, Canon.pos i) else none)) ++
  (d.kwOnly.map (fun p => (p.name, Canon.kw p.name)))

def dedupCanon : List Canon → List Canon
  | [] => []
  | x :: xs => let r := dedupCanon xs; if r.contains x then r else x :: r

/-- names declared at position `i` over all definitions (`none` = positional-only there) -/
def namesAt (ds : List FnDef) (i : Nat) : List (Option Nat) :=
  dedupOpt (ds.filterMap (fun d => match d.positional[i]? with
    | some p => some (if p.kind == .posOrKw then some p.name else none)
    | none => none))

def isGenAlias : Ty → Bool | .gen .. => true | _ => false

def analyze (ds : List FnDef) : Except CfgErr Analysis := do
  -- is_method must agree (core.py L266-271)
  let isM := match ds with | d :: _ => d.isMethod | [] => false
  if ds.any (fun d => d.isMethod != isM) then throw .selfMix
  -- every name has one canonical key (L276-285)
  let all := ds.flatMap canonsOf
  let names := dedupNat (all.map (·.1))
  for n in names do
    let cs := dedupCanon ((all.filter (fun p => p.1 == n)).map (·.2))
    if cs.length != 1 then throw .nameConflict
  let total := ds.length
  let npos := ds.foldl (fun acc d => max acc d.positional.length) 0
  let reqAt (i : Nat) : Bool :=
    (ds.filter (fun d => match d.positional[i]? with | some p => p.required | none => false)).length == total
  let nreq := ((List.range npos).takeWhile reqAt).length
  -- trailing positions with exactly one string name are "positional"; the rest is strict (L291-300)
  let single (i : Nat) : Bool := match namesAt ds i with | [some _] => true | _ => false
  let npositional := ((List.range npos).reverse.takeWhile single).length
  let nstrict := npos - npositional
  let nms := (List.range npos).filterMap (fun i => if i < nstrict then none else
    match namesAt ds i with | [some n] => some n | _ => none)
  let kws := dedupFirst (ds.flatMap (fun d => d.kwOnly.map (·.name)))
  let kwReqd (n : Nat) : Bool :=
    (ds.filter (fun d => d.kwOnly.any (fun p => p.name == n && p.required))).length == total
  return {
    npos := npos, nreq := nreq, nstrict := nstrict, names := nms,
    kwReq := kws.filter kwReqd, kwOpt := kws.filter (fun n => !kwReqd n),
    isMethod := isM,
    complexPos := (List.range npos).filter (fun i => ds.any (fun d => match d.positional[i]? with
      | some p => isGenAlias p.ty | none => false)),
    complexKw := kws.filter (fun n => ds.any (fun d => d.kwOnly.any (fun p => p.name == n && isGenAlias p.ty))) }

/-- a run-time argument: its class, and — when the value is itself a type object — the `type[...]` key that
    `subtler_type` computes for it -/
structure Arg where
  vid : Nat                  -- identity of the value (for "received exactly what was supplied")
  cls : Ty                   -- `type(v)`
  subtler : Ty               -- `subtler_type(v)`
  val : DVal := default      -- the value itself, as far as value-dependent checks look at it
deriving Inhabited

structure Call where
  pos : List Arg
  kw : List (Nat × Arg)
deriving Inhabited

inductive BindErr | tooManyPos | unexpectedKw | multipleValues | missingRequired
deriving DecidableEq, Repr

/-- what the generated entry point does with a call: the lookup key and the arguments forwarded to the
    method that the table returns -/
structure Dispatch where
  key : Key
  passPos : List Arg
  passKw : List (Nat × Arg)

def Analysis.optCount (a : Analysis) : Nat := a.npos - a.nreq

/-- how many leading positions are positional-only in the generated `def` (recode.py L103-120) -/
def Analysis.posOnly (a : Analysis) : Nat :=
  let npo := a.npos - max a.nreq a.nstrict   -- non-strict optional positionals (`po`)
  if npo > 1 then a.npos
  else if a.nstrict > 0 then a.nstrict
  else 0

def Analysis.nameOfPos (a : Analysis) (i : Nat) : Option Nat :=
  if i < a.nstrict then none else a.names[i - a.nstrict]?

def keyTy (complex : Bool) (x : Arg) : Ty := if complex then x.subtler else x.cls

/-- CPython's binding of the call to the generated parameter list, then the body of `__DISPATCH__` -/
def entry (a : Analysis) (c : Call) : Except BindErr Dispatch := do
  if c.pos.length > a.npos then throw .tooManyPos
  -- keywords: a positional-or-keyword parameter not yet filled, or a keyword-only name
  let mut slots : List (Nat × Arg) := []      -- positions filled by keyword
  let mut kws : List (Nat × Arg) := []
  for (n, v) in c.kw do
    match (List.range a.npos).find? (fun i => i ≥ a.posOnly && a.nameOfPos i == some n) with
    | some i =>
      if i < c.pos.length || slots.any (fun s => s.1 == i) then throw .multipleValues
      slots := slots ++ [(i, v)]
    | none =>
      if (a.kwReq ++ a.kwOpt).contains n then
        if kws.any (fun s => s.1 == n) then throw .multipleValues
        kws := kws ++ [(n, v)]
      else throw .unexpectedKw
  let valAt (i : Nat) : Option Arg :=
    match c.pos[i]? with
    | some v => some v
    | none => (slots.find? (fun s => s.1 == i)).map (·.2)
  for i in List.range a.nreq do
    if (valAt i).isNone then throw .missingRequired
  for n in a.kwReq do
    if !(kws.any (fun s => s.1 == n)) then throw .missingRequired
  -- first omitted optional positional: early exit with the positional prefix (L149-161); keyword-only
  -- arguments are kept (since the `fix:` for finding D8)
  let firstMissing := (List.range a.npos).find? (fun i => i ≥ a.nreq && (valAt i).isNone)
  let kreq := a.kwReq.filterMap (fun n => (kws.find? (fun s => s.1 == n)))
  let kopt := a.kwOpt.filterMap (fun n => (kws.find? (fun s => s.1 == n)))
  let kk := kreq ++ kopt
  let vals := match firstMissing with
    | some m => (List.range m).filterMap valAt
    | none => (List.range a.npos).filterMap valAt
  return { key := vals.zipIdx.map (fun (v, i) => (Slot.pos i, keyTy (a.complexPos.contains i) v)) ++
                  kk.map (fun (n, v) => (Slot.kw n, keyTy (a.complexKw.contains n) v)),
           passPos := vals, passKw := kk }

/-- binding of the forwarded arguments by the selected method itself (its own defaults fill the rest);
    `none` = CPython raises TypeError inside the call -/
def methodBind (d : FnDef) (x : Dispatch) : Option (List (Nat × Option Arg)) :=
  let pos := d.positional
  if x.passPos.length > pos.length then none else
  let kwOK := x.passKw.all (fun (n, _) =>
    d.kwOnly.any (fun p => p.name == n) ||
    (pos.zipIdx.any (fun (p, i) => p.kind == .posOrKw && p.name == n && i ≥ x.passPos.length)))
  if !kwOK then none else
  let bound : List (Nat × Option Arg) :=
    (pos.zipIdx.map (fun (p, i) => (p.name, match x.passPos[i]? with
      | some v => some v
      | none => (x.passKw.find? (fun s => s.1 == p.name)).map (·.2)))) ++
    (d.kwOnly.map (fun p => (p.name, (x.passKw.find? (fun s => s.1 == p.name)).map (·.2))))
  let missing := d.params.any (fun p => p.required && match bound.find? (fun b => b.1 == p.name) with
    | some (_, some _) => false | _ => true)
  if missing then none else some bound

end Ovld

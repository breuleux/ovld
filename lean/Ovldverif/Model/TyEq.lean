import Ovldverif.Model.Ty
/-! `Ty.beq`, which the model calls directly, decides equality, so `Ty` gets `DecidableEq`.  The file stands among the
model files because `Model/SortTypes` needs that instance. -/
set_option autoImplicit false
namespace Ovld.Ty

-- `beq` and `beqL` compute on constructors: the goals below are conjunctions `(_ && _) = true` as they stand
mutual
theorem beq_refl : ∀ (a : Ty), beq a a = true
  | cls _ => beq_self_eq_true _
  | union a | inter a => beqL_refl a
  | exactly .. | strict .. | hasm .. | pred .. => Bool.and_eq_true_iff.2 ⟨beq_self_eq_true _, beq_self_eq_true _⟩
  | gen _ a => Bool.and_eq_true_iff.2 ⟨beq_self_eq_true _, beqL_refl a⟩
  | lit _ b => Bool.and_eq_true_iff.2 ⟨beq_self_eq_true _, beq_refl b⟩
  | prod p b => Bool.and_eq_true_iff.2 ⟨beqL_refl p, beq_refl b⟩
  | fdep _ _ b =>
    Bool.and_eq_true_iff.2 ⟨Bool.and_eq_true_iff.2 ⟨beq_self_eq_true _, beq_self_eq_true _⟩, beq_refl b⟩
theorem beqL_refl : ∀ (a : List Ty), beqL a a = true
  | [] => rfl
  | a :: as => Bool.and_eq_true_iff.2 ⟨beq_refl a, beqL_refl as⟩
end

-- off the diagonal `beq` is `false` by computation (`cases h`); on it, the components are compared
mutual
theorem eq_of_beq : ∀ (a b : Ty), beq a b = true → a = b
  | cls _, b, h => by cases b <;> first | cases h | rw [beq_iff_eq.1 h]
  | exactly .., b, h | strict .., b, h | hasm .., b, h | pred .., b, h => by
    cases b <;> first | cases h | (have h := Bool.and_eq_true_iff.1 h; rw [beq_iff_eq.1 h.1, beq_iff_eq.1 h.2])
  | gen o a, b, h => by
    cases b with
    | gen p b =>
      have h := Bool.and_eq_true_iff.1 h
      rw [beq_iff_eq.1 h.1, eqL_of_beqL a b h.2]
    | _ => cases h
  | union a, b, h | inter a, b, h => by
    cases b <;> first | cases h | rw [eqL_of_beqL a _ h]
  | lit k a, b, h => by
    cases b with
    | lit l b =>
      have h := Bool.and_eq_true_iff.1 h
      rw [beq_iff_eq.1 h.1, eq_of_beq a b h.2]
    | _ => cases h
  | prod p a, b, h => by
    cases b with
    | prod q b =>
      have h := Bool.and_eq_true_iff.1 h
      rw [eqL_of_beqL p q h.1, eq_of_beq a b h.2]
    | _ => cases h
  | fdep f p a, b, h => by
    cases b with
    | fdep g q b =>
      have h := Bool.and_eq_true_iff.1 h
      have h1 := Bool.and_eq_true_iff.1 h.1
      rw [beq_iff_eq.1 h1.1, beq_iff_eq.1 h1.2, eq_of_beq a b h.2]
    | _ => cases h
theorem eqL_of_beqL : ∀ (a b : List Ty), beqL a b = true → a = b
  | [], [], _ => rfl
  | [], _ :: _, h => by cases h
  | _ :: _, [], h => by cases h
  | a :: as, b :: bs, h => by
    have h := Bool.and_eq_true_iff.1 h
    rw [eq_of_beq a b h.1, eqL_of_beqL as bs h.2]
end

theorem beq_iff (a b : Ty) : beq a b = true ↔ a = b :=
  ⟨eq_of_beq a b, fun h => h ▸ beq_refl a⟩

instance : DecidableEq Ty := fun a b =>
  if h : beq a b = true then isTrue ((beq_iff a b).mp h) else isFalse (fun e => h ((beq_iff a b).mpr e))

theorem beq_comm (a b : Ty) : beq a b = beq b a := by
  rw [Bool.eq_iff_iff, beq_iff, beq_iff]; exact eq_comm

theorem beq_false_of_ne {a b : Ty} (h : a ≠ b) : beq a b = false :=
  Bool.eq_false_iff.mpr fun e => h (eq_of_beq a b e)

end Ovld.Ty

import Ovldverif.Model.Ty
import Ovldverif.Model.Order
/-!
# Layer A (3/3): `mro.typeorder`, `mro.subclasscheck` and CPython's `issubclass` on the modelled types

Follows `src/ovld/mro.py` L43-157 branch by branch, with the hooks of `types.py`
(`Union`/`Intersection`/`SingleFunctionHandler`) and `dependent.py` (`DependentType`, `ProductType`,
`FuncDependentType.__lt__`) inlined.  All three functions recurse on a fuel argument
(`fuel := size t1 + size t2 + 1` at the top), so that they evaluate under `decide`.

The class hierarchy enters only through three tables, re-extracted from the live classes of every
scenario by the correspondence harness: `sub c d = issubclass(c, d)`, `hasAttr c m = hasattr(c, m)`,
`pred k c` = the k-th user `class_check` predicate on class `c`.  Class id 0 is `object`.
-/
set_option autoImplicit false

namespace Ovld

structure Hier where
  sub : Nat → Nat → Bool
  hasAttr : Nat → Nat → Bool
  pred : Nat → Nat → Bool

/-- `Union.__type_order__` (types.py L331-343) on the list of member comparisons -/
def unionOrd (cmp : List TOrd) : TOrd :=
  let c := cmp.filter (fun x => !x.isNone)
  if c.isEmpty then .none else if c.any TOrd.isMS then .more else .less

/-- `Intersection.__type_order__` (types.py L382-394) -/
def interOrd (cmp : List TOrd) : TOrd :=
  let c := cmp.filter (fun x => !x.isNone)
  if c.isEmpty then .none else if c.any TOrd.isLS then .less else .more

def zipWithT {α : Type} (f : Ty → Ty → α) : List Ty → List Ty → List α
  | a :: as, b :: bs => f a b :: zipWithT f as bs
  | _, _ => []

section
variable (H : Hier)

/-- `issubclass(t1, c2)` for a plain class `c2` -/
def issubCls (t1 : Ty) (c2 : Nat) : Bool :=
  match t1 with
  | .cls c1 => H.sub c1 c2
  | .gen .. => false
  | _ => c2 == 0

/-- the `StrictSubclass` handler -/
def strictH (t1 : Ty) (c : Nat) : Bool :=
  match t1 with
  | .cls c1 => H.sub c1 c && c1 != c
  | .gen .. => false
  | _ => c == 0

/-- the `HasMethod` handler (`hasattr` of an alias forwards to its origin) -/
def hasmH (t1 : Ty) (m : Nat) : Bool :=
  match t1 with
  | .cls c1 => H.hasAttr c1 m
  | .gen o _ => H.hasAttr o m
  | _ => false

/-- a user `class_check` predicate (total; false on anything that is not a plain class) -/
def predH (t1 : Ty) (k : Nat) : Bool :=
  match t1 with
  | .cls c1 => H.pred k c1
  | _ => false

/-! The branch bodies take the two recursive functions (at the smaller fuel) as parameters `to` / `sc`,
so that `tord` / `subc` are structurally recursive on the fuel and evaluate under `decide`. -/
section bodies
variable (to : Ty → Ty → TOrd) (sc : Ty → Ty → Bool)

/-- CPython's `issubclass(t1, t2)` for non-alias operands (metaclass `__subclasscheck__`s included) -/
def pyIssub : Ty → Ty → Bool
  | t1, .cls c2 => issubCls H t1 c2
  | t1, .union ts => ts.any (fun t => sc t1 t)
  | t1, .inter ts => ts.all (fun t => sc t1 t)
  | t1, .exactly _ c => Ty.beq t1 (.cls c)
  | t1, .strict _ c => strictH H t1 c
  | t1, .hasm _ m => hasmH H t1 m
  | t1, .pred _ k => predH H t1 k
  | _, _ => false

/-- mro.py L67-106: neither operand has an effective `__type_order__` -/
def tstruct : Ty → Ty → TOrd
  | .gen o1 a1, .gen o2 a2 =>
    let r := to (.cls o1) (.cls o2)
    if r != .same then r
    else if !a1.isEmpty && a2.isEmpty then .less
    else if !a2.isEmpty && a1.isEmpty then .more
    else if a1.length != a2.length then .none
    else TOrd.merge (zipWithT to a1 a2)
  | .gen o1 _, t2 =>
    let r := to (.cls o1) t2
    if r == .same then .less else r
  | t1, .gen o2 _ =>
    let r := to (.cls o2) t1
    (if r == .same then TOrd.less else r).opposite
  | t1, t2 => ofSub (pyIssub H sc t1 t2) (pyIssub H sc t2 t1)

/-- `DependentType.__type_order__` (dependent.py L95-114) -/
def depHook (self bound other : Ty) : TOrd :=
  match other.bound? with
  | some ob =>
    let o := to bound ob
    if o == .same then
      if Ty.depLt self other then .less
      else if Ty.depLt other self then .more
      else .none
    else o
  | none =>
    if sc other bound || sc bound other then .less else .none

/-- `self.__type_order__(other)`; `none` = no such attribute, or `NotImplemented` -/
def hook : Ty → Ty → Option TOrd
  | .union ts, other => some (unionOrd (ts.map (fun t => to t other)))
  | .inter ts, other => some (interOrd (ts.map (fun t => to t other)))
  | .exactly _ c, other =>
    some (if Ty.beq other (.cls c) then .less else to (.cls c) other)
  | .prod ps _, .prod qs _ =>
    some (if ps.length == qs.length then TOrd.merge (zipWithT to ps qs) else .none)
  | .lit k b, other => some (depHook to sc (.lit k b) b other)
  | .fdep fn ps b, other => some (depHook to sc (.fdep fn ps b) b other)
  | _, _ => none

/-- `subclasscheck` for unequal operands, by the kind of `t2` -/
def subcNe : Ty → Ty → Bool
  -- `__is_supertype__`
  | t1, .union ts => ts.any (fun t => sc t1 t)
  | t1, .inter ts => ts.all (fun t => sc t1 t)
  | t1, .exactly _ c => Ty.beq t1 (.cls c)
  | t1, .strict _ c => strictH H t1 c
  | t1, .hasm _ m => hasmH H t1 m
  | t1, .pred _ k => predH H t1 k
  | t1, .lit _ b => if t1.isDepTop then false else sc t1 b
  | t1, .prod _ b => if t1.isDepTop then false else sc t1 b
  | t1, .fdep _ _ b => if t1.isDepTop then false else sc t1 b
  -- generic aliases (L129-152)
  | .gen o1 a1, .gen o2 a2 =>
    H.sub o1 o2 && a1.length == a2.length && (zipWithT sc a1 a2).all id
  | .cls c1, .gen o2 a2 => H.sub c1 o2 && a2.isEmpty
  | _, .gen o2 a2 => o2 == 0 && a2.isEmpty
  | .gen o1 _, .cls c2 => H.sub o1 c2
  -- plain `issubclass` (L154-157)
  | t1, .cls c2 => issubCls H t1 c2

end bodies

mutual
/-- `typeorder(t1, t2)` (mro.py L43-106) -/
def tord : Nat → Ty → Ty → TOrd
  | 0, _, _ => .none
  | f + 1, t1, t2 =>
    if Ty.beq t1 t2 then .same else
    match hook (tord f) (subc f) t1 t2 with
    | some r => r
    | none =>
      match hook (tord f) (subc f) t2 t1 with
      | some r => r.opposite
      | none => tstruct H (tord f) (subc f) t1 t2

/-- `subclasscheck(t1, t2)` (mro.py L109-157) -/
def subc : Nat → Ty → Ty → Bool
  | 0, _, _ => false
  | f + 1, t1, t2 =>
    if Ty.beq t1 t2 then true else subcNe H (subc f) t1 t2
end

def typeorder (t1 t2 : Ty) : TOrd := tord H (t1.size + t2.size + 1) t1 t2
def subclasscheck (t1 t2 : Ty) : Bool := subc H (t1.size + t2.size + 1) t1 t2

end
end Ovld

import Ovldverif.Model.JsonE
import Ovldverif.Model.Fn
/-! Decoding / encoding for function-level scenarios (trusted glue). -/
set_option autoImplicit false
open Lean
namespace Ovld

def paramOfJson (j : Json) : Except String Param := do
  let kind ← jStr (← jField j "kind")
  let k ← match kind with
    | "po" => pure PKind.posOnly
    | "pk" => pure PKind.posOrKw
    | "ko" => pure PKind.kwOnly
    | s => throw s!"bad param kind {s}"
  return { name := ← jNat (← jField j "name"), kind := k, required := ← jBool (← jField j "req"), ty := ← tyOfJson (← jField j "ty") }

def argOfJson (j : Json) : Except String Arg := do
  let val ← match j.getObjVal? "val" with
    | .ok v => dvalOfJson v
    | .error _ => pure default
  return { vid := ← jNat (← jField j "vid"), cls := ← tyOfJson (← jField j "cls"), subtler := ← tyOfJson (← jField j "subtler"), val := val }

def srcOfJson (pool : Array Arg) (j : Json) : Except String ArgSrc := do
  let a ← jArr j
  match (← jStr a[0]!) with
  | "p" => return .param (← jNat a[1]!)
  | "c" => match pool[(← jNat a[1]!)]? with
    | some v => return .const v
    | none => throw "bad arg index"
  | s => throw s!"bad arg source {s}"

def bodyOfJson (pool : Array Arg) (j : Json) : Except String Body := do
  let a ← jArr j
  let srcs : Except String (List ArgSrc) := do (← jArr a[1]!).toList.mapM (srcOfJson pool)
  match (← jStr a[0]!) with
  | "ret" => return .ret
  | "callNext" => return .callNext (← srcs)
  | "recurse" => return .recurse (← srcs)
  | "next" => return .next (← srcs)
  | s => throw s!"bad body {s}"

def defOfJson (pool : Array Arg) (j : Json) : Except String Def := do
  let d : FnDef := {
    id := ← jNat (← jField j "id"), code := ← jNat (← jField j "code"),
    isMethod := ← jBool (jFieldD j "isMethod" (Json.bool false)),
    params := ← (← jArr (← jField j "params")).toList.mapM paramOfJson,
    prio := ← jInt (← jField j "prio") }
  return { d := d, body := ← bodyOfJson pool (← jField j "body") }

def callOfJson (pool : Array Arg) (a : Array Json) : Except String Call := do
  let get (j : Json) : Except String Arg := do
    match pool[(← jNat j)]? with
    | some v => pure v
    | none => throw "bad arg index"
  let pos ← (← jArr a[1]!).toList.mapM get
  let kw ← (← jArr a[2]!).toList.mapM (fun e => do
    let p ← jArr e
    return (← jNat p[0]!, ← get p[1]!))
  return { pos := pos, kw := kw }

def outcomeToJson : Outcome → Json
  | .ran id => Json.arr #[Json.str "ran", toJson id]
  | .ambiguous ids => Json.arr #[Json.str "ambiguous", toJson (sortNat ids)]
  | .noMethod => Json.arr #[Json.str "nomethod"]
  | .bindError => Json.arr #[Json.str "bind"]
  | .methodBindError => Json.arr #[Json.str "bind"]
  | .configError => Json.arr #[Json.str "config"]
  | .locked => Json.arr #[Json.str "locked"]
  | .depth => Json.arr #[Json.str "depth"]
  | .keyError => Json.arr #[Json.str "keyerror"]
  | .cycle => Json.arr #[Json.str "cycle"]
  | .raised => Json.arr #[Json.str "raised"]
  | .unsupported => Json.arr #[Json.str "unsupported"]

def traceToJson (t : Trace) : Json :=
  Json.arr (t.toArray.map (fun (id, pos, kw) =>
    Json.arr #[toJson id, toJson pos,
      toJson ((kw.mergeSort (fun a b => a.1 ≤ b.1)).map (fun p => [p.1, p.2]))]))

end Ovld

import Ovldverif.Spec.Runs
/-!
# Layer G: the graph of overloaded functions (`Ovld` with mixins, `copy`, `variant`, `add_mixins`, `linkback`)

core.py L360-594.  Every node has its own definitions; `defns` overlays the mixins' definitions (recursively, in
mixin order) with the node's own; a definition of identical signature replaces in place.  `compile` locks the
*direct* mixins that are not linked back and builds the table from the overlay as it is at that moment
(`built`); `_update` recompiles a compiled node and propagates to `children` (linked-back descendants only).
A call runs on the table in service, i.e. on `built`, which is how a stale child is observable.
-/
set_option autoImplicit false
namespace Ovld

structure Node where
  own : List (Def × Int) := []
  mixins : List Nat := []
  children : List Nat := []
  linkback : Bool := false
  locked : Bool := false
  compiled : Bool := false
  mm : MMap := {}
  ana : Analysis := default
  built : List (Def × Int) := []
deriving Inhabited

structure Graph where
  nodes : List Node := []

def Graph.get (g : Graph) (n : Nat) : Node := g.nodes[n]?.getD default

def Graph.set (g : Graph) (n : Nat) (x : Node) : Graph :=
  { nodes := g.nodes.zipIdx.map (fun (y, i) => if i == n then x else y) }

/-- `dict.update` with `Signature` keys: replace in place, else append -/
def overlay (base add : List (Def × Int)) : List (Def × Int) :=
  add.foldl (fun acc e =>
    if acc.any (fun o => sameSigDef o.1.d o.2 e.1.d e.2)
    then acc.map (fun o => if sameSigDef o.1.d o.2 e.1.d e.2 then e else o)
    else acc ++ [e]) base

/-- the `defns` property (core.py L383-389); fuel bounds the depth of the mixin DAG -/
def Graph.defns (g : Graph) : Nat → Nat → List (Def × Int)
  | 0, _ => []
  | f + 1, n =>
    let x := g.get n
    overlay (x.mixins.foldl (fun acc m => overlay acc (g.defns f m)) []) x.own

def Graph.depth (g : Graph) : Nat := g.nodes.length + 1

/-- `lock()`: this function and, transitively, everything it derives from (L427-430) -/
def Graph.lock : Nat → Graph → Nat → Graph
  | 0, g, _ => g
  | f + 1, g, n =>
    let g1 := g.set n { g.get n with locked := true }
    (g1.get n).mixins.foldl (fun g m => Graph.lock f g m) g1

/-- `_lock_unlinked_ancestors()` (L432-439): a linked mixin keeps propagating, so only *its* unlinked
    ancestors are locked; an unlinked mixin is locked with everything above it -/
def Graph.lockUnlinked : Nat → Graph → Nat → Graph
  | 0, g, _ => g
  | f + 1, g, n =>
    (g.get n).mixins.foldl (fun g m =>
      if (g.get m).children.contains n then Graph.lockUnlinked f g m else Graph.lock f g m) g

/-- `compile()` -/
def Graph.compile (g : Graph) (n : Nat) : Graph × Option CfgErr :=
  let g1 := Graph.lockUnlinked (g.nodes.length + 1) g n
  let ds := g1.defns g1.depth n
  match analyze (ds.map (·.1.d)) with
  | .error e => (g1, some e)
  | .ok ana =>
    let mm := (Fn.methsOf ds).foldl MMap.register {}
    (g1.set n { g1.get n with compiled := true, mm := mm, ana := ana, built := ds }, none)

/-- `_update()` (L567-573) -/
def Graph.update : Nat → Graph → Nat → Graph × Option CfgErr
  | 0, g, _ => (g, none)
  | f + 1, g, n =>
    let (g1, e1) := if (g.get n).compiled then g.compile n else (g, none)
    (g1.get n).children.foldl (fun (acc : Graph × Option CfgErr) c =>
      let (g', e') := Graph.update f acc.1 c
      (g', match acc.2 with | some e => some e | none => e')) (g1, e1)

inductive GOp
  | create (mixins : List Nat) (linkback : Bool)
  | addMixins (n : Nat) (mixins : List Nat)
  | register (n : Nat) (d : Def)
  | unregister (n : Nat) (id : Nat)
  | call (n : Nat) (c : Call)

/-- `add_mixins` (L445-452), followed by `_update()` -/
def Graph.addMixins (g : Graph) (n : Nat) (ms : List Nat) : Graph × Option Outcome :=
  let x := g.get n
  if x.locked then (g, some .locked) else
  let ms := ms.filter (fun m => m != n)
  let g1 := if x.linkback then ms.foldl (fun g m => let y := g.get m; g.set m { y with children := y.children ++ [n] }) g else g
  let g2 := g1.set n { g1.get n with mixins := (g1.get n).mixins ++ ms }
  let (g3, e) := Graph.update g2.depth g2 n
  (g3, e.map (fun _ => .configError))

def Graph.create (g : Graph) (mixins : List Nat) (linkback : Bool) : Graph :=
  let n := g.nodes.length
  let g1 : Graph := { nodes := g.nodes ++ [{ linkback := linkback }] }
  (g1.addMixins n mixins).1

def Graph.register (g : Graph) (n : Nat) (d : Def) : Graph × Option Outcome :=
  let x := g.get n
  if x.locked then (g, some .locked) else
  let own := setDefn (x.own.length + 1) x.own d 0
  let g1 := g.set n { x with own := own }
  let (g2, e) := Graph.update g1.depth g1 n
  (g2, e.map (fun _ => .configError))

def Graph.unregister (g : Graph) (n : Nat) (id : Nat) : Graph × Option Outcome :=
  let x := g.get n
  if x.locked then (g, some .locked) else
  let g1 := g.set n { x with own := x.own.filter (fun e => e.1.d.id != id) }
  let (g2, e) := Graph.update g1.depth g1 n
  (g2, e.map (fun _ => .configError))

/-- a call on node `n`: lazy build, then the single-function semantics on the table in service -/
def Graph.call (cfg : Cfg) (g : Graph) (n : Nat) (c : Call) : Graph × Outcome × Trace × Nat :=
  let (g1, e) := if (g.get n).compiled then (g, none) else g.compile n
  match e with
  | some _ => (g1, .configError, [], 0)
  | none =>
    let x := g1.get n
    let view : Fn := { defns := x.built, compiled := true, mm := x.mm, ana := x.ana }
    let (v', o, t, k) := view.call cfg c
    (g1.set n { x with mm := v'.mm }, o, t, k)

/-- specification side of C16: what node `n` must behave like right now — a fresh function carrying the
    overlay of its ancestors' and its own current definitions -/
def Graph.expected (cfg : Cfg) (g : Graph) (n : Nat) (c : Call) : Outcome × Trace :=
  let r := (Fn.fresh (g.defns g.depth n)).call cfg c
  (r.2.1, r.2.2.1)

/-- one operation on the graph -/
def Graph.step (cfg : Cfg) (g : Graph) : GOp → Graph × Option Outcome
  | .create ms lb => (g.create ms lb, none)
  | .addMixins n ms => g.addMixins n ms
  | .register n d => g.register n d
  | .unregister n id => g.unregister n id
  | .call n c => let r := g.call cfg n c; (r.1, some r.2.1)

/-- a sequence of operations -/
def Graph.runOps (cfg : Cfg) : Graph → List GOp → Graph
  | g, [] => g
  | g, op :: rest => Graph.runOps cfg (g.step cfg op).1 rest

end Ovld

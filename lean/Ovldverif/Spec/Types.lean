import Ovldverif.Model.TypeOrder
/-!
# Specifications for the type layer (C12, C13)

* `Hier.WF`: what the theorems assume about CPython's `issubclass` on the classes of a scenario
  (checked on the live classes of every generated hierarchy by the correspondence harness).
* `mem H c T`: the *documented meaning* of a non-value-dependent annotation `T` for a value whose
  class is `c`.
-/
set_option autoImplicit false
namespace Ovld

structure Hier.WF (H : Hier) : Prop where
  refl : ∀ a, H.sub a a = true
  trans : ∀ a b c, H.sub a b = true → H.sub b c = true → H.sub a c = true
  top : ∀ a, H.sub a 0 = true

/-- needed only where two distinct classes that are subclasses of each other would make a difference
    (structurally identical protocols are the one way to build them) -/
def Hier.Antisym (H : Hier) : Prop := ∀ a b, H.sub a b = true → H.sub b a = true → a = b

mutual
/-- documented meaning of `T` for a value of class `c` (docs/types.md): member of some union arm, of all
    intersection arms, exactly the class, a proper subclass, has the method, satisfies the predicate -/
def mem (H : Hier) (c : Nat) : Ty → Bool
  | .cls d => H.sub c d
  | .gen _ _ => false
  | .union ts => memAny H c ts
  | .inter ts => memAll H c ts
  | .exactly _ d => c == d
  | .strict _ d => H.sub c d && c != d
  | .hasm _ m => H.hasAttr c m
  | .pred _ k => H.pred k c
  | .lit .. => false
  | .prod .. => false
  | .fdep .. => false
def memAny (H : Hier) (c : Nat) : List Ty → Bool
  | [] => false
  | t :: ts => mem H c t || memAny H c ts
def memAll (H : Hier) (c : Nat) : List Ty → Bool
  | [] => true
  | t :: ts => mem H c t && memAll H c ts
end

mutual
/-- no value-dependent type and no parametrised generic anywhere inside -/
def Ty.plain : Ty → Bool
  | .cls _ => true
  | .gen .. => false
  | .union ts => Ty.plainL ts
  | .inter ts => Ty.plainL ts
  | .exactly .. => true
  | .strict .. => true
  | .hasm .. => true
  | .pred .. => true
  | .lit .. => false
  | .prod .. => false
  | .fdep .. => false
def Ty.plainL : List Ty → Bool
  | [] => true
  | t :: ts => Ty.plain t && Ty.plainL ts
end

mutual
/-- membership is inherited by subclasses: classes, unions, intersections, StrictSubclass -/
def Ty.downClosed : Ty → Bool
  | .cls _ => true
  | .union ts => Ty.downClosedL ts
  | .inter ts => Ty.downClosedL ts
  | .strict .. => true
  | _ => false
def Ty.downClosedL : List Ty → Bool
  | [] => true
  | t :: ts => Ty.downClosed t && Ty.downClosedL ts
end

/-- `__type_order__` exists on the object and does not return `NotImplemented` against `other` -/
def Ty.effHook (self other : Ty) : Bool :=
  match self with
  | .union _ | .inter _ | .exactly .. | .lit .. | .fdep .. => true
  | .prod .. => (match other with | .prod .. => true | _ => false)
  | _ => false

/-! `symFrag`: the operand pairs on which `typeorder` is proved mirror-symmetric: never two *different
    designs* of effective `__type_order__` hook facing each other (Union / Intersection / Exactly against each
    other or against a value-dependent type), recursively through generic arguments, `tuple[...]` members and
    dependent bounds -/
mutual
def symFrag : Ty → Ty → Bool
  | .gen _ a1, .gen _ a2 => !a1.isEmpty && !a2.isEmpty && symFragL a1 a2
  | .prod ps b1, .prod qs b2 => !ps.isEmpty && !qs.isEmpty && symFragL ps qs && symFrag b1 b2
  | .lit _ b1, .lit _ b2 => symFrag b1 b2
  | .lit _ b1, .fdep _ _ b2 => symFrag b1 b2
  | .fdep _ _ b1, .lit _ b2 => symFrag b1 b2
  | .fdep _ _ b1, .fdep _ _ b2 => symFrag b1 b2
  | t1, t2 => !(t1.effHook t2 && t2.effHook t1)
def symFragL : List Ty → List Ty → Bool
  | a :: as, b :: bs => symFrag a b && symFragL as bs
  | _, _ => true
end

end Ovld
